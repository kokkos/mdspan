import MdspanVerif.Model.Access
import MdspanVerif.Model.Adm
import MdspanVerif.Model.Conc
import MdspanVerif.Model.Convert
import MdspanVerif.Model.ConvertG
import MdspanVerif.Model.ElemCv
import MdspanVerif.Model.Extents
import MdspanVerif.Model.ExtentsM
import MdspanVerif.Model.Int
import MdspanVerif.Model.Layout
import MdspanVerif.Model.LayoutI
import MdspanVerif.Model.LayoutM
import MdspanVerif.Model.Mdarray
import MdspanVerif.Model.PaddedM
import MdspanVerif.Model.Pair
import MdspanVerif.Model.Sizes
import MdspanVerif.Model.Sub
import MdspanVerif.Model.SubM
import MdspanVerif.Model.SubMapM
import MdspanVerif.Model.SubTypes
import MdspanVerif.Model.Types
import MdspanVerif.Model.Types2
import MdspanVerif.Model.ValidB
import MdspanVerif.Model.View
import MdspanVerif.Lemmas.Canonical
import MdspanVerif.Lemmas.Covers
import MdspanVerif.Lemmas.Machine
import MdspanVerif.Lemmas.Padded
import MdspanVerif.Lemmas.Perm
import MdspanVerif.Lemmas.Prod1
import MdspanVerif.Lemmas.Slices
import MdspanVerif.Lemmas.Strided
import MdspanVerif.Lemmas.SubAdm
import MdspanVerif.Lemmas.TwoLists
import MdspanVerif.Lemmas.ValidStridesB
import MdspanVerif.Props.C01
import MdspanVerif.Props.C02
import MdspanVerif.Props.C03
import MdspanVerif.Props.C04
import MdspanVerif.Props.C04b
import MdspanVerif.Props.C04c
import MdspanVerif.Props.C04d
import MdspanVerif.Props.C05
import MdspanVerif.Props.C05b
import MdspanVerif.Props.C06
import MdspanVerif.Props.C06b
import MdspanVerif.Props.C07
import MdspanVerif.Props.C07b
import MdspanVerif.Props.C08
import MdspanVerif.Props.C08c
import MdspanVerif.Props.C09
import MdspanVerif.Props.C09b
import MdspanVerif.Props.C09c
import MdspanVerif.Props.C10
import MdspanVerif.Props.C10b
import MdspanVerif.Props.C11
import MdspanVerif.Props.C11b
import MdspanVerif.Props.C11c
import MdspanVerif.Props.C12
import MdspanVerif.Props.C13
import MdspanVerif.Props.C13b
import MdspanVerif.Props.C14
import MdspanVerif.Props.C14b
import MdspanVerif.Props.C14e
import MdspanVerif.Props.C14f
import MdspanVerif.Props.C14g
import MdspanVerif.Props.C14h
import MdspanVerif.Props.C14i
import MdspanVerif.Props.C14k
import MdspanVerif.Props.C15b
import MdspanVerif.Props.C16
import MdspanVerif.Props.C16b
import MdspanVerif.Props.C16c
import MdspanVerif.Props.C17
import MdspanVerif.Props.C18
import MdspanVerif.Props.C19
import MdspanVerif.Props.C19b
import MdspanVerif.Props.C20
import MdspanVerif.Props.C20b
