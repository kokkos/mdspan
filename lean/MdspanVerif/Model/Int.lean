/-!
# C++ integer semantics for the index types of mdspan (LP64, two's complement)

The eight index types the library can be instantiated with on this platform
(`char`/`short`/`int`/`long`/`long long` and their unsigned counterparts;
`long` and `long long` are both 64 bit and behave identically in arithmetic).
Signed overflow and division by zero are undefined behaviour and reported as
`UB`; conversions wrap (C++20 / GCC / Clang semantics).
-/
namespace Mdspan

inductive ITy | i8 | u8 | i16 | u16 | i32 | u32 | i64 | u64
deriving DecidableEq, Repr, Inhabited

namespace ITy
def sgn : ITy → Bool
  | i8 | i16 | i32 | i64 => true
  | _ => false
def bits : ITy → Nat
  | i8 | u8 => 8 | i16 | u16 => 16 | i32 | u32 => 32 | i64 | u64 => 64
def modulus : ITy → Int
  | i8 | u8 => 256 | i16 | u16 => 65536
  | i32 | u32 => 4294967296 | i64 | u64 => 18446744073709551616
def hi : ITy → Int
  | i8 => 127 | u8 => 255 | i16 => 32767 | u16 => 65535
  | i32 => 2147483647 | u32 => 4294967295
  | i64 => 9223372036854775807 | u64 => 18446744073709551615
def lo : ITy → Int
  | i8 => -128 | i16 => -32768 | i32 => -2147483648 | i64 => -9223372036854775808
  | _ => 0
/-- value-changing conversion into `t` (modular) -/
def wrap (t : ITy) (x : Int) : Int :=
  let r := x % t.modulus
  if t.sgn && r > t.hi then r - t.modulus else r
/-- integral promotion -/
def promote : ITy → ITy
  | i8 | u8 | i16 | u16 => i32
  | t => t
/-- usual arithmetic conversions (both operands promoted first) -/
def common (a b : ITy) : ITy :=
  let a := a.promote
  let b := b.promote
  if a = b then a
  else if a.sgn = b.sgn then (if a.bits ≥ b.bits then a else b)
  else
    let s := if a.sgn then a else b
    let u := if a.sgn then b else a
    if u.bits ≥ s.bits then u else s
/-- `std::make_unsigned_t` -/
def toUnsigned : ITy → ITy
  | i8 => u8 | i16 => u16 | i32 => u32 | i64 => u64 | t => t
def InRange (t : ITy) (x : Int) : Prop := t.lo ≤ x ∧ x ≤ t.hi
instance (t : ITy) (x : Int) : Decidable (t.InRange x) := by unfold InRange; infer_instance
end ITy

inductive UB | overflow | divzero | oob
deriving DecidableEq, Repr

abbrev M := Except UB

deriving instance DecidableEq for Except

/-- a typed value -/
structure V where
  ty : ITy
  v : Int
deriving DecidableEq, Repr

namespace V
def cast (t : ITy) (a : V) : V := ⟨t, t.wrap a.v⟩
def ofNat (t : ITy) (n : Nat) : V := ⟨t, n⟩

/-- arithmetic in the common type of the operands -/
def arith (op : Int → Int → Int) (a b : V) : M V :=
  let t := ITy.common a.ty b.ty
  let x := t.wrap a.v
  let y := t.wrap b.v
  let r := op x y
  if t.sgn then (if t.InRange r then pure ⟨t, r⟩ else throw .overflow)
  else pure ⟨t, t.wrap r⟩
def mul := arith (· * ·)
def add := arith (· + ·)
def sub := arith (· - ·)
def div (a b : V) : M V :=
  let t := ITy.common a.ty b.ty
  let x := t.wrap a.v
  let y := t.wrap b.v
  if y = 0 then throw .divzero
  else
    let r := Int.tdiv x y
    if t.sgn then (if t.InRange r then pure ⟨t, r⟩ else throw .overflow) else pure ⟨t, t.wrap r⟩
def mod (a b : V) : M V :=
  let t := ITy.common a.ty b.ty
  let x := t.wrap a.v
  let y := t.wrap b.v
  if y = 0 then throw .divzero else pure ⟨t, t.wrap (Int.tmod x y)⟩
/-- comparison in the common type -/
def eq (a b : V) : Bool :=
  let t := ITy.common a.ty b.ty
  t.wrap a.v == t.wrap b.v
def lt (a b : V) : Bool :=
  let t := ITy.common a.ty b.ty
  t.wrap a.v < t.wrap b.v
end V

theorem ITy.hi_le_promote (t : ITy) : t.hi ≤ t.promote.hi := by cases t <;> decide
theorem ITy.lo_nonpos (t : ITy) : t.lo ≤ 0 := by cases t <;> decide
theorem ITy.promote_lo_le (t : ITy) : t.promote.lo ≤ 0 := t.promote.lo_nonpos
theorem ITy.hi_nonneg (t : ITy) : 0 ≤ t.hi := by cases t <;> decide
theorem ITy.hi_lt_modulus (t : ITy) : t.hi < t.modulus := by cases t <;> decide
theorem ITy.one_le_hi (t : ITy) : (1 : Int) ≤ t.hi := by cases t <;> decide
theorem ITy.hi_le_u64 (t : ITy) : t.hi ≤ ITy.u64.hi := by cases t <;> decide

theorem ITy.wrap_id (t : ITy) (x : Int) (h0 : 0 ≤ x) (h1 : x ≤ t.hi) : t.wrap x = x := by
  have hm : x % t.modulus = x := Int.emod_eq_of_lt h0 (Int.lt_of_le_of_lt h1 t.hi_lt_modulus)
  show (if (t.sgn && decide (x % t.modulus > t.hi)) = true then _ else _) = x
  rw [hm, decide_eq_false (Int.not_lt.mpr h1), Bool.and_false]
  rfl

theorem ITy.wrap_of_unsigned (t : ITy) (x : Int) (h : t.sgn = false) : t.wrap x = x % t.modulus := by
  show (if (t.sgn && decide (x % t.modulus > t.hi)) = true then _ else _) = _
  rw [h, Bool.false_and]
  rfl

/-! ### the common type

`common` is the larger of the two promoted types in the order `int < unsigned < long < unsigned long`.
In the machine layer the operands have type `T`, `T.promote` (an intermediate result) or `int`
(a literal): the lines below are the table of these cases. -/

theorem ITy.hi_le_common (a b : ITy) : a.hi ≤ (ITy.common a b).hi ∧ b.hi ≤ (ITy.common a b).hi := by
  cases a <;> cases b <;> decide +kernel
theorem ITy.promote_promote (t : ITy) : t.promote.promote = t.promote := by cases t <;> rfl
theorem ITy.common_self (t : ITy) : ITy.common t t = t.promote := by cases t <;> rfl
theorem ITy.common_promote_left (t : ITy) : ITy.common t.promote t = t.promote := by cases t <;> rfl
theorem ITy.common_promote_right (t : ITy) : ITy.common t t.promote = t.promote := by cases t <;> rfl
theorem ITy.common_promote_both (t : ITy) : ITy.common t.promote t.promote = t.promote :=
  t.promote.common_self.trans t.promote_promote
theorem ITy.common_i32_right (t : ITy) : ITy.common t .i32 = t.promote := by cases t <;> rfl
theorem ITy.common_i32_left (t : ITy) : ITy.common .i32 t = t.promote := by cases t <;> rfl
theorem ITy.common_promote_i32 (t : ITy) : ITy.common t.promote .i32 = t.promote := by cases t <;> rfl
theorem ITy.common_i32_promote (t : ITy) : ITy.common .i32 t.promote = t.promote := by cases t <;> rfl

/-! ### operations on operands that are values of the common type -/

theorem V.arith_ok (op : Int → Int → Int) (a b : V)
    (ha : 0 ≤ a.v) (ha' : a.v ≤ (ITy.common a.ty b.ty).hi)
    (hb : 0 ≤ b.v) (hb' : b.v ≤ (ITy.common a.ty b.ty).hi)
    (h0 : 0 ≤ op a.v b.v) (h1 : op a.v b.v ≤ (ITy.common a.ty b.ty).hi) :
    V.arith op a b = .ok ⟨ITy.common a.ty b.ty, op a.v b.v⟩ := by
  unfold V.arith
  simp only
  rw [ITy.wrap_id _ a.v ha ha', ITy.wrap_id _ b.v hb hb']
  split
  · rw [if_pos ⟨Int.le_trans (ITy.lo_nonpos _) h0, h1⟩]; rfl
  · rw [ITy.wrap_id _ _ h0 h1]; rfl

theorem V.wrap_common (a b : V) (ha : 0 ≤ a.v) (ha' : a.v ≤ a.ty.hi) (hb : 0 ≤ b.v) (hb' : b.v ≤ b.ty.hi) :
    (ITy.common a.ty b.ty).wrap a.v = a.v ∧ (ITy.common a.ty b.ty).wrap b.v = b.v :=
  have h := ITy.hi_le_common a.ty b.ty
  ⟨ITy.wrap_id _ _ ha (Int.le_trans ha' h.1), ITy.wrap_id _ _ hb (Int.le_trans hb' h.2)⟩

theorem V.eq_iff (a b : V) (ha : 0 ≤ a.v) (ha' : a.v ≤ a.ty.hi) (hb : 0 ≤ b.v) (hb' : b.v ≤ b.ty.hi) :
    V.eq a b = true ↔ a.v = b.v := by
  have h := V.wrap_common a b ha ha' hb hb'
  unfold V.eq
  simp only
  rw [h.1, h.2]
  exact beq_iff_eq

theorem V.lt_iff (a b : V) (ha : 0 ≤ a.v) (ha' : a.v ≤ a.ty.hi) (hb : 0 ≤ b.v) (hb' : b.v ≤ b.ty.hi) :
    V.lt a b = true ↔ a.v < b.v := by
  have h := V.wrap_common a b ha ha' hb hb'
  unfold V.lt
  simp only
  rw [h.1, h.2]
  exact decide_eq_true_iff

end Mdspan
