import MdspanVerif.Lemmas.Strided
/-!
# `validStridesB`: the stride precondition (generalised chain) as an executable test

The driver classifies with it the strides a mapping is observed to have, and it is a conjunct of the
admissibility predicate `Layout.validB` / `Layout.admB` (`Model/Adm.lean`).  Sound here, complete in
`Lemmas/ValidStridesB.lean`.
-/
namespace Mdspan

def descB : List (Nat × Nat) → Bool
  | [] => true
  | d :: ds => (decide (d.1 ≤ 1) || decide (spanM1 ds < d.2)) && descB ds

theorem descB_iff (l : List (Nat × Nat)) : descB l = true ↔ DescC l := by
  induction l with
  | nil => exact ⟨fun _ => trivial, fun _ => rfl⟩
  | cons d ds ih => simp only [descB, DescC, Bool.and_eq_true, Bool.or_eq_true, decide_eq_true_eq, ih]

/-- dimensions with at most one index value sort last; the others by descending stride -/
def sortKey (d : Nat × Nat) : Nat := if d.1 ≤ 1 then 0 else d.2

def insertDesc (d : Nat × Nat) : List (Nat × Nat) → List (Nat × Nat)
  | [] => [d]
  | x :: xs => if sortKey x ≤ sortKey d then d :: x :: xs else x :: insertDesc d xs
def sortDesc : List (Nat × Nat) → List (Nat × Nat)
  | [] => []
  | d :: ds => insertDesc d (sortDesc ds)

theorem insertDesc_perm (d : Nat × Nat) : ∀ l, (insertDesc d l).Perm (d :: l) := by
  intro l
  induction l with
  | nil => exact List.Perm.refl _
  | cons x xs ih =>
    rw [insertDesc]
    split
    · exact List.Perm.refl _
    · exact (List.Perm.cons x ih).trans (List.Perm.swap d x xs)

theorem sortDesc_perm : ∀ l, (sortDesc l).Perm l := by
  intro l
  induction l with
  | nil => exact List.Perm.refl _
  | cons d ds ih => exact (insertDesc_perm d (sortDesc ds)).trans (List.Perm.cons d ih)

def validStridesB (es ss : List Nat) : Bool :=
  es.length == ss.length && descB (sortDesc (List.zip es ss))

/-- soundness: what the driver accepts satisfies the hypothesis of `dot_inj` / C01 -/
theorem validStridesB_sound (es ss : List Nat) (h : validStridesB es ss = true) : ValidStrides es ss := by
  simp only [validStridesB, Bool.and_eq_true, beq_iff_eq] at h
  exact ⟨h.1, sortDesc (List.zip es ss), sortDesc_perm _, (descB_iff _).mp h.2⟩

end Mdspan
