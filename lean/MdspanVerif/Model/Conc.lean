/-!
# Memory, events and schedules (C19)

An event is one element access performed by a thread through a view; its address is
`handle + offset(mapping, idx)`, a pure function of immutable view state.  A schedule is the
global order in which events happen; the per-thread program is the subsequence of a thread.
-/
namespace Mdspan

abbrev Mem := Nat → Int

structure Ev where
  tid : Nat
  isWrite : Bool
  addr : Nat
  val : Int
deriving DecidableEq, Repr

def upd (m : Mem) (a : Nat) (v : Int) : Mem := fun x => if x = a then v else m x

def stepMem (m : Mem) (e : Ev) : Mem := if e.isWrite then upd m e.addr e.val else m

def runMem (m : Mem) : List Ev → Mem
  | [] => m
  | e :: s => runMem (stepMem m e) s

/-- what thread `t` reads, in its program order -/
def readLog (t : Nat) : Mem → List Ev → List Int
  | _, [] => []
  | m, e :: s =>
    if e.tid = t ∧ e.isWrite = false then m e.addr :: readLog t (stepMem m e) s
    else readLog t (stepMem m e) s

/-- the program of thread `t` -/
def prog (t : Nat) (s : List Ev) : List Ev := s.filter (fun e => e.tid = t)

/-- no thread writes an address that another thread accesses (disjoint index sets give this,
    by injectivity of the mapping: C01, and by the aliasing theorem for sub-views: C04) -/
def RaceFree (s : List Ev) : Prop :=
  ∀ e1 ∈ s, ∀ e2 ∈ s, e1.isWrite = true → e1.addr = e2.addr → e1.tid = e2.tid

theorem stepMem_apply (m : Mem) (e : Ev) (a : Nat) :
    stepMem m e a = if e.isWrite = true ∧ e.addr = a then e.val else m a := by
  unfold stepMem upd
  cases e.isWrite <;> simp [eq_comm]

/-- last value written to `a`, if any -/
def lastW (a : Nat) : List Ev → Option Int
  | [] => none
  | e :: s => match lastW a s with
    | some v => some v
    | none => if e.isWrite = true ∧ e.addr = a then some e.val else none

/-- `runMem` by the last write; the theorems below go through `prog_isolated`, not through this -/
theorem runMem_eq (a : Nat) : ∀ (s : List Ev) (m : Mem), runMem m s a = (lastW a s).getD (m a) := by
  intro s
  induction s with
  | nil => exact fun _ => rfl
  | cons e s ih =>
    intro m
    rw [runMem, lastW, ih, stepMem_apply]
    cases lastW a s with
    | some v => rfl
    | none => dsimp only [Option.getD_none]; split <;> rfl

theorem prog_cons (t : Nat) (e : Ev) (s : List Ev) :
    prog t (e :: s) = if e.tid = t then e :: prog t s else prog t s := by
  simp only [prog, List.filter_cons, decide_eq_true_eq]

/-- **isolation**, for a set `A` of addresses that only thread `t` writes in `s`: a foreign event
    changes nothing in `A`, an own event acts alike on both sides -/
theorem prog_isolated (t : Nat) (A : Nat → Prop) (s : List Ev) (m1 m2 : Mem)
    (hp : ∀ e ∈ s, e.isWrite = true → A e.addr → e.tid = t) (hag : ∀ a, A a → m1 a = m2 a) :
    (∀ a, A a → runMem m1 s a = runMem m2 (prog t s) a) ∧
    ((∀ e ∈ s, e.tid = t → A e.addr) → readLog t m1 s = readLog t m2 (prog t s)) := by
  induction s generalizing m1 m2 with
  | nil => exact ⟨hag, fun _ => rfl⟩
  | cons e s ih =>
    obtain ⟨hpe, hp⟩ := List.forall_mem_cons.mp hp
    by_cases ht : e.tid = t
    · rw [prog_cons, if_pos ht]
      have ih := ih (stepMem m1 e) (stepMem m2 e) hp fun a ha => by
        rw [stepMem_apply, stepMem_apply, hag a ha]
      refine ⟨ih.1, fun hr => ?_⟩
      obtain ⟨hre, hr⟩ := List.forall_mem_cons.mp hr
      simp only [readLog, ht, true_and]
      rw [hag _ (hre ht), ih.2 hr]
    · rw [prog_cons, if_neg ht]
      have ih := ih (stepMem m1 e) m2 hp fun a ha => by
        rw [stepMem_apply, if_neg fun ⟨hw, he⟩ => ht (hpe hw (he ▸ ha)), hag a ha]
      refine ⟨ih.1, fun hr => ?_⟩
      simp only [readLog, ht, false_and, if_false]
      exact ih.2 (List.forall_mem_cons.mp hr).2

/-- **isolation**: under race freedom every thread reads what it would read running alone -/
theorem readLog_isolated (t : Nat) : ∀ (s : List Ev) (m1 m2 : Mem), RaceFree s →
    (∀ e ∈ s, e.tid = t → m1 e.addr = m2 e.addr) →
    readLog t m1 s = readLog t m2 (prog t s) := by
  intro s m1 m2 hr hag
  -- `prog_isolated` for the addresses that `t` accesses
  let A : Nat → Prop := fun a => ∃ e ∈ s, e.tid = t ∧ e.addr = a
  have hown : ∀ e ∈ s, e.isWrite = true → A e.addr → e.tid = t :=
    fun e1 h1 hw ⟨e2, h2, ht, ha⟩ => (hr e1 h1 e2 h2 hw ha.symm).trans ht
  have hagA : ∀ a, A a → m1 a = m2 a := fun _ ⟨e, he, ht, ha⟩ => ha ▸ hag e he ht
  exact (prog_isolated t A s m1 m2 hown hagA).2 fun e he ht => ⟨e, he, ht, rfl⟩

/-- **schedule independence of what every thread observes** -/
theorem readLog_schedule_indep (t : Nat) (s1 s2 : List Ev) (m : Mem)
    (h1 : RaceFree s1) (h2 : RaceFree s2) (hp : prog t s1 = prog t s2) :
    readLog t m s1 = readLog t m s2 := by
  rw [readLog_isolated t s1 m m h1 (fun _ _ _ => rfl),
    readLog_isolated t s2 m m h2 (fun _ _ _ => rfl), hp]

/-- **schedule independence of the final memory**: each address is written by one thread only, and
    that thread's program is the same in both schedules (the events of `s2` are events of `s1`, so
    `h1` alone is used) -/
theorem runMem_schedule_indep (s1 s2 : List Ev) (m : Mem) (h1 : RaceFree s1) (h2 : RaceFree s2)
    (hp : ∀ t, prog t s1 = prog t s2) : runMem m s1 = runMem m s2 := by
  funext a
  have mem2 : ∀ e ∈ s2, e ∈ s1 := fun e he => by
    have h : e ∈ prog e.tid s2 := List.mem_filter.mpr ⟨he, decide_eq_true rfl⟩
    rw [← hp] at h
    exact (List.mem_filter.mp h).1
  -- the owner of `a`: the thread of any write to it, or anybody if there is none
  obtain ⟨t, own⟩ : ∃ t, ∀ e ∈ s1, e.isWrite = true → e.addr = a → e.tid = t := by
    by_cases hex : ∃ e ∈ s1, e.isWrite = true ∧ e.addr = a
    · obtain ⟨e0, he0, _, ha0⟩ := hex
      exact ⟨e0.tid, fun e he hw ha => h1 e he e0 he0 hw (ha.trans ha0.symm)⟩
    · exact ⟨0, fun e he hw ha => absurd ⟨e, he, hw, ha⟩ hex⟩
  have run := fun s (h : ∀ e ∈ s, e.isWrite = true → e.addr = a → e.tid = t) =>
    (prog_isolated t (· = a) s m m h fun _ _ => rfl).1 a rfl
  rw [run s1 own, run s2 fun e he => own e (mem2 e he), hp]

end Mdspan
