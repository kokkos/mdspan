/-!
# The four `__compressed_pair` specialisations

An "empty" C++ class has exactly one observable value; it is modelled by a type with a
distinguished value that every value equals.  A specialisation that stores an empty component
as a base class does not store it at all: reading it yields that value.
-/
namespace Mdspan

class EmptyT (α : Type) where
  val : α
  all_eq : ∀ a : α, a = val

/-- neither empty (also the `[[no_unique_address]]` case) -/
structure PairNN (α β : Type) where
  t1 : α
  t2 : β
/-- first empty: derives from `_T1`, stores `_T2` -/
structure PairEN (α β : Type) where
  t2 : β
/-- second empty -/
structure PairNE (α β : Type) where
  t1 : α
/-- both empty: two disambiguated empty bases -/
structure PairEE (α β : Type) where
  unit : Unit := ()

def PairNN.mk' {α β} (a : α) (b : β) : PairNN α β := ⟨a, b⟩
def PairNN.first {α β} (p : PairNN α β) : α := p.t1
def PairNN.second {α β} (p : PairNN α β) : β := p.t2

def PairEN.mk' {α β} (_ : α) (b : β) : PairEN α β := ⟨b⟩
def PairEN.first {α β} [EmptyT α] (_ : PairEN α β) : α := EmptyT.val
def PairEN.second {α β} (p : PairEN α β) : β := p.t2

def PairNE.mk' {α β} (a : α) (_ : β) : PairNE α β := ⟨a⟩
def PairNE.first {α β} (p : PairNE α β) : α := p.t1
def PairNE.second {α β} [EmptyT β] (_ : PairNE α β) : β := EmptyT.val

def PairEE.mk' {α β} (_ : α) (_ : β) : PairEE α β := {}
def PairEE.first {α β} [EmptyT α] (_ : PairEE α β) : α := EmptyT.val
def PairEE.second {α β} [EmptyT β] (_ : PairEE α β) : β := EmptyT.val

/-! ### every specialisation refines the ordinary pair -/

theorem PairNN.first_mk {α β} (a : α) (b : β) : (PairNN.mk' a b).first = a := rfl
theorem PairNN.second_mk {α β} (a : α) (b : β) : (PairNN.mk' a b).second = b := rfl
theorem PairEN.first_mk {α β} [EmptyT α] (a : α) (b : β) : (PairEN.mk' a b).first = a :=
  (EmptyT.all_eq a).symm
theorem PairEN.second_mk {α β} (a : α) (b : β) : (PairEN.mk' a b).second = b := rfl
theorem PairNE.first_mk {α β} (a : α) (b : β) : (PairNE.mk' a b).first = a := rfl
theorem PairNE.second_mk {α β} [EmptyT β] (a : α) (b : β) : (PairNE.mk' a b).second = b :=
  (EmptyT.all_eq b).symm
theorem PairEE.first_mk {α β} [EmptyT α] (a : α) (b : β) : (PairEE.mk' (β := β) a b).first = a :=
  (EmptyT.all_eq a).symm
theorem PairEE.second_mk {α β} [EmptyT β] (a : α) (b : β) : (PairEE.mk' (α := α) a b).second = b :=
  (EmptyT.all_eq b).symm

end Mdspan
