import MdspanVerif.Lemmas.Perm
/-!
# The canonical strides of layout_left and layout_right

Offsets as dot products with them, their validity (generalised chain) and their span, over
"allocation extents" `fs ≥ es` (`LeL es fs`), which is how the padded layouts use them.
-/
namespace Mdspan

/-! ### `LeL` -/

def LeL : List Nat → List Nat → Prop
  | [], [] => True
  | e :: es, f :: fs => e ≤ f ∧ LeL es fs
  | _, _ => False

theorem leL_refl : ∀ es : List Nat, LeL es es
  | [] => trivial
  | _ :: es => ⟨Nat.le_refl _, leL_refl es⟩

theorem leL_length : ∀ es fs : List Nat, LeL es fs → es.length = fs.length
  | [], [], _ => rfl
  | _ :: es, _ :: fs, h => congrArg (· + 1) (leL_length es fs h.2)

theorem leL_concat (x y : Nat) (init : List Nat) : LeL (init ++ [x]) (init ++ [y]) ↔ x ≤ y := by
  induction init with
  | nil => exact and_iff_left trivial
  | cons a init ih => exact (and_iff_right (Nat.le_refl a)).trans ih

theorem inB_leL (is es fs : List Nat) (hb : InB is es) (hle : LeL es fs) : InB is fs := by
  induction is, es, hb using InB.induction generalizing fs with
  | nil =>
    rcases fs with _ | _
    · trivial
    · exact hle.elim
  | cons hi _ ih =>
    rcases fs with _ | ⟨f, fs⟩
    · exact hle.elim
    · exact ⟨Nat.lt_of_lt_of_le hi hle.1, ih fs hle.2⟩

/-! ### row-major (layout_right and layout_right_padded) -/

theorem rightGo_eq (acc : Nat) (es is : List Nat) (h : is.length = es.length) :
    rightGo acc es is = acc * prod es + dot is (rightStrides es) := by
  induction is, es, h using List.induction₂ generalizing acc with
  | nil => exact (Nat.mul_one acc).symm
  | cons i is e es _ ih =>
    rw [rightGo, ih, prod, rightStrides, dot, Nat.add_mul, Nat.mul_assoc, Nat.add_assoc]

/-- C02 for layout_right: the Horner accumulator computes Σ i_r · Π_{k>r} e_k -/
theorem rightOff_eq_dot (es is : List Nat) (h : is.length = es.length) :
    rightOff es is = dot is (rightStrides es) := by
  induction is, es, h using List.induction₂ with
  | nil => rfl
  | cons i is e es h _ => exact rightGo_eq i es is h

theorem rightStrides_length (es : List Nat) : (rightStrides es).length = es.length := by
  induction es with
  | nil => rfl
  | cons e es ih => simp [rightStrides, ih]

theorem rightStrides_pos (es : List Nat) (h : ∀ e ∈ es, 0 < e) : ∀ s ∈ rightStrides es, 0 < s := by
  induction es with
  | nil => exact fun _ hs => nomatch hs
  | cons e es ih =>
    have ht := (List.forall_mem_cons.mp h).2
    exact List.forall_mem_cons.mpr ⟨prod_pos es ht, ih ht⟩

/-- the first conjunct, for the tail, is what makes the head's stride large enough -/
theorem chain_right_le (es fs : List Nat) (hle : LeL es fs) (h : ∀ e ∈ es, 0 < e) :
    spanM1 (List.zip es (rightStrides fs)) + 1 ≤ prod fs ∧ DescC (List.zip es (rightStrides fs)) := by
  have hl := leL_length es fs hle
  induction es, fs, hl using List.induction₂ with
  | nil => exact ⟨Nat.le_refl _, trivial⟩
  | cons e es f fs _ ih =>
    obtain ⟨he, h⟩ := List.forall_mem_cons.mp h
    obtain ⟨ih, hd⟩ := ih hle.2 h
    have h1 := pred_mul_add e (prod fs) he
    have h2 : e * prod fs ≤ f * prod fs := Nat.mul_le_mul_right _ hle.1
    refine ⟨?_, Or.inr ih, hd⟩
    simp only [rightStrides, List.zip_cons_cons, spanM1, prod]
    omega

theorem valid_right_le (es fs : List Nat) (hle : LeL es fs) (h : ∀ e ∈ es, 0 < e) :
    ValidStrides es (rightStrides fs) :=
  ⟨by rw [rightStrides_length, leL_length es fs hle], _, List.Perm.refl _,
    (chain_right_le es fs hle h).2⟩

theorem span_right_le (es fs : List Nat) (hle : LeL es fs) (h : ∀ e ∈ es, 0 < e) :
    spanM1 (List.zip es (rightStrides fs)) + 1 ≤ prod fs := (chain_right_le es fs hle h).1

theorem span_right_eq (es : List Nat) (h : ∀ e ∈ es, 0 < e) :
    spanM1 (List.zip es (rightStrides es)) + 1 = prod es :=
  Nat.le_antisymm (span_right_le es es (leL_refl es) h)
    ((valid_right_le es es (leL_refl es) h).prod_le h)

/-! ### column-major (layout_left and layout_left_padded) -/

theorem dot_leftStridesFrom (p : Nat) (es is : List Nat) :
    dot is (leftStridesFrom p es) = p * leftOff es is := by
  induction es generalizing p is with
  | nil => simp [leftStridesFrom, dot, leftOff]
  | cons e es ih =>
    cases is with
    | nil => simp [dot, leftOff]
    | cons i is =>
      rw [leftStridesFrom, dot, ih, leftOff, Nat.mul_add, Nat.mul_assoc, Nat.mul_comm e,
        Nat.mul_comm i, Nat.add_comm]

/-- C02 for layout_left: the nested recursion computes Σ i_r · Π_{k<r} e_k -/
theorem leftOff_eq_dot (es is : List Nat) : leftOff es is = dot is (leftStrides es) := by
  rw [leftStrides, dot_leftStridesFrom, Nat.one_mul]

theorem leftStridesFrom_length (p : Nat) (es : List Nat) :
    (leftStridesFrom p es).length = es.length := by
  induction es generalizing p with
  | nil => rfl
  | cons e es ih => simp [leftStridesFrom, ih]

theorem leftStrides_length (es : List Nat) : (leftStrides es).length = es.length :=
  leftStridesFrom_length 1 es

theorem leftStridesFrom_pos (p : Nat) (es : List Nat) (hp : 0 < p) (h : ∀ e ∈ es, 0 < e) :
    ∀ s ∈ leftStridesFrom p es, 0 < s := by
  induction es generalizing p with
  | nil => exact fun _ hs => nomatch hs
  | cons e es ih =>
    obtain ⟨he, h⟩ := List.forall_mem_cons.mp h
    exact List.forall_mem_cons.mpr ⟨hp, ih (p * e) (Nat.mul_pos hp he) h⟩

/-- column-major strides starting from a stride `p` above what a chain `pre` spans: everything
    stays inside `p * prod fs`, and read backwards they continue that chain -/
theorem chain_left_le (p : Nat) (es fs : List Nat) (pre : List (Nat × Nat)) (hle : LeL es fs)
    (h : ∀ e ∈ es, 0 < e) (hd : DescC pre) (hlt : spanM1 pre < p) :
    spanM1 pre + spanM1 (List.zip es (leftStridesFrom p fs)) < p * prod fs ∧
      DescC ((List.zip es (leftStridesFrom p fs)).reverse ++ pre) := by
  have hl := leL_length es fs hle
  induction es, fs, hl using List.induction₂ generalizing p pre with
  | nil => exact ⟨by rwa [prod, Nat.mul_one], hd⟩
  | cons e es f fs _ ih =>
    obtain ⟨he, h⟩ := List.forall_mem_cons.mp h
    have h1 := pred_mul_add e p he
    have h2 : e * p ≤ p * f := Nat.mul_comm e p ▸ Nat.mul_le_mul_left _ hle.1
    obtain ⟨hs, ha⟩ := ih (p * f) ((e, p) :: pre) hle.2 h ⟨Or.inr hlt, hd⟩
      (by simp only [spanM1]; omega)
    simp only [leftStridesFrom, List.zip_cons_cons, List.reverse_cons, List.append_assoc,
      List.singleton_append, spanM1, prod] at hs ⊢
    rw [← Nat.mul_assoc]
    exact ⟨by omega, ha⟩

theorem valid_left_le (es fs : List Nat) (hle : LeL es fs) (h : ∀ e ∈ es, 0 < e) :
    ValidStrides es (leftStrides fs) := by
  refine ⟨by rw [leftStrides_length, leL_length es fs hle], _, List.reverse_perm _, ?_⟩
  have := (chain_left_le 1 es fs [] hle h trivial Nat.one_pos).2
  rwa [List.append_nil] at this

theorem span_left_le (es fs : List Nat) (hle : LeL es fs) (h : ∀ e ∈ es, 0 < e) :
    spanM1 (List.zip es (leftStrides fs)) + 1 ≤ prod fs := by
  have := (chain_left_le 1 es fs [] hle h trivial Nat.one_pos).1
  rwa [spanM1, Nat.zero_add, Nat.one_mul] at this

theorem span_left_eq (es : List Nat) (h : ∀ e ∈ es, 0 < e) :
    spanM1 (List.zip es (leftStrides es)) + 1 = prod es :=
  Nat.le_antisymm (span_left_le es es (leL_refl es) h)
    ((valid_left_le es es (leL_refl es) h).prod_le h)

/-! ### row-major strides are the column-major strides of the reversed extents -/

theorem leftStridesFrom_concat (p : Nat) (l : List Nat) (e : Nat) :
    leftStridesFrom p (l ++ [e]) = leftStridesFrom p l ++ [p * prod l] := by
  induction l generalizing p with
  | nil => simp [leftStridesFrom, prod]
  | cons x xs ih =>
    simp only [List.cons_append, leftStridesFrom, prod]
    rw [ih, Nat.mul_assoc]

theorem rightStrides_reverse (es : List Nat) : (rightStrides es).reverse = leftStrides es.reverse := by
  induction es with
  | nil => rfl
  | cons e es ih =>
    simp only [rightStrides, List.reverse_cons, leftStrides]
    rw [leftStridesFrom_concat, ← leftStrides, ← ih, prod_reverse, Nat.one_mul]

theorem rightStrides_concat (l : List Nat) (p : Nat) :
    rightStrides (l ++ [p]) = (leftStridesFrom p l.reverse).reverse ++ [1] := by
  rw [← List.reverse_reverse (rightStrides _), rightStrides_reverse, List.reverse_append,
    List.reverse_singleton, List.singleton_append, leftStrides, leftStridesFrom, Nat.one_mul,
    List.reverse_cons]

end Mdspan
