import MdspanVerif.Lemmas.TwoLists
/-!
# Strided mappings on dimension lists: range and injectivity along a generalised chain

A list `l` of `(extent, stride)` pairs stands for the dimensions in some order.  A multi-index
of `l` is an `is` with `InB is (l.map Prod.fst)`, its offset is `dot is (l.map Prod.snd)`;
for `l = List.zip es ss` with lists of equal length these are `InB is es` and `dot is ss`
(`zip_fst`, `zip_snd`).  `ValidStrides` is defined after `stdChain_desc`.  `1 + spanM1 l` is what
`layout_stride::required_span_size` returns for a non-empty index space (last section).
-/
namespace Mdspan

/-! ### arithmetic and lists -/

theorem pred_mul_add (e s : Nat) (h : 0 < e) : (e - 1) * s + s = e * s := by
  rw [← Nat.succ_mul, Nat.succ_eq_add_one, Nat.sub_add_cancel h]

theorem mul_add_div_mod {s r : Nat} (i : Nat) (hr : r < s) :
    (i * s + r) / s = i ∧ (i * s + r) % s = r :=
  (Nat.div_mod_unique (Nat.zero_lt_of_lt hr)).mpr ⟨by rw [Nat.add_comm, Nat.mul_comm], hr⟩

theorem mul_add_inj {s a b i j : Nat} (ha : a < s) (hb : b < s) (h : i * s + a = j * s + b) :
    i = j := by
  rw [← (mul_add_div_mod i ha).1, h, (mul_add_div_mod j hb).1]

/-- the shape of every bound in a refinement proof: `h` between natural numbers, `hb` the admissibility hypothesis -/
theorem natCast_le_of_le {a b : Nat} {c : Int} (h : a ≤ b) (hb : (b : Int) ≤ c) : (a : Int) ≤ c :=
  Int.le_trans (Int.ofNat_le.mpr h) hb

theorem pos_of_not_mem_zero (es : List Nat) (h : 0 ∉ es) : ∀ e ∈ es, 0 < e :=
  fun _ he => Nat.pos_of_ne_zero (fun h0 => h (h0 ▸ he))

theorem zip_fst {es ss : List Nat} (hl : es.length = ss.length) : (List.zip es ss).map Prod.fst = es :=
  List.map_fst_zip (Nat.le_of_eq hl)

theorem zip_snd {es ss : List Nat} (hl : es.length = ss.length) : (List.zip es ss).map Prod.snd = ss :=
  List.map_snd_zip (Nat.le_of_eq hl.symm)

/-! ### `prod` -/

theorem prod_eq_zero_iff (es : List Nat) : prod es = 0 ↔ 0 ∈ es := by
  induction es with
  | nil => simp [prod]
  | cons e es ih => simp only [prod, Nat.mul_eq_zero, List.mem_cons, ih, eq_comm (a := 0)]

theorem prod_pos (es : List Nat) (h : ∀ e ∈ es, 0 < e) : 0 < prod es :=
  Nat.pos_of_ne_zero fun h0 => Nat.lt_irrefl 0 (h 0 ((prod_eq_zero_iff es).mp h0))

theorem prod_append (a b : List Nat) : prod (a ++ b) = prod a * prod b := by
  induction a with
  | nil => simp [prod]
  | cons x xs ih => simp [prod, ih, Nat.mul_assoc]

theorem prod_concat (init : List Nat) (x : Nat) : prod (init ++ [x]) = prod init * x := by
  rw [prod_append, prod, prod, Nat.mul_one]

theorem prod_reverse (l : List Nat) : prod l.reverse = prod l := by
  induction l with
  | nil => rfl
  | cons x xs ih => rw [List.reverse_cons, prod_concat, ih, prod, Nat.mul_comm]

/-! ### `InB` -/

theorem inB_length (is es : List Nat) (h : InB is es) : is.length = es.length := by
  induction is, es, h using InB.induction with
  | nil => rfl
  | cons _ _ ih => exact congrArg (· + 1) ih

theorem inB_pos (is es : List Nat) (h : InB is es) : ∀ e ∈ es, 0 < e := by
  induction is, es, h using InB.induction with
  | nil => exact fun _ hx => nomatch hx
  | cons hi _ ih => exact List.forall_mem_cons.mpr ⟨Nat.zero_lt_of_lt hi, ih⟩

/-! ### dimension lists and chains -/

/-- Σ (e-1)*s -/
def spanM1 : List (Nat × Nat) → Nat
  | [] => 0
  | d :: ds => (d.1 - 1) * d.2 + spanM1 ds

/-- generalised chain on `(extent, stride)` pairs, head = outermost dimension:
    either at most one index value, or a stride beyond everything the tail spans. -/
def DescC : List (Nat × Nat) → Prop
  | [] => True
  | d :: ds => (d.1 ≤ 1 ∨ spanM1 ds < d.2) ∧ DescC ds

/-- the precondition of `layout_stride::mapping(extents, strides)` in the standard,
    for a list already ordered by the permutation (head = last of the permutation) -/
def StdChain : List (Nat × Nat) → Prop
  | [] => True
  | [d] => 0 < d.2
  | d :: d' :: ds => d'.2 * d'.1 ≤ d.2 ∧ StdChain (d' :: ds)

theorem spanM1_mem_le {d : Nat × Nat} {l : List (Nat × Nat)} (h : d ∈ l) :
    (d.1 - 1) * d.2 ≤ spanM1 l := by
  induction l with
  | nil => nomatch h
  | cons x l ih =>
    rcases List.mem_cons.mp h with rfl | h
    · exact Nat.le_add_right _ _
    · exact Nat.le_trans (ih h) (Nat.le_add_left _ _)

theorem spanM1_perm {l1 l2 : List (Nat × Nat)} (h : l1.Perm l2) : spanM1 l1 = spanM1 l2 := by
  induction h with
  | nil => rfl
  | cons x _ ih => simp only [spanM1, ih]
  | swap x y l => exact Nat.add_left_comm ..
  | trans _ _ ih1 ih2 => exact ih1.trans ih2

theorem prod_perm {l1 l2 : List Nat} (h : l1.Perm l2) : prod l1 = prod l2 := by
  induction h with
  | nil => rfl
  | cons x _ ih => simp only [prod, ih]
  | swap x y l => simp only [prod]; exact Nat.mul_left_comm ..
  | trans _ _ ih1 ih2 => exact ih1.trans ih2

theorem dot_le_span : ∀ (l : List (Nat × Nat)) (is : List Nat), InB is (l.map Prod.fst) →
    dot is (l.map Prod.snd) ≤ spanM1 l
  | [], [], _ => Nat.le_refl _
  | d :: ds, _ :: is, h =>
    Nat.add_le_add (Nat.mul_le_mul_right d.2 (Nat.le_sub_one_of_lt h.1)) (dot_le_span ds is h.2)

theorem dot_le_spanM1 (is es ss : List Nat) (h : InB is es) (hl : es.length = ss.length) :
    dot is ss ≤ spanM1 (List.zip es ss) := by
  have := dot_le_span (List.zip es ss) is (by rwa [zip_fst hl])
  rwa [zip_snd hl] at this

theorem desc_inj : ∀ (l : List (Nat × Nat)), DescC l → ∀ is js, InB is (l.map Prod.fst) →
    InB js (l.map Prod.fst) → dot is (l.map Prod.snd) = dot js (l.map Prod.snd) → is = js
  | [], _, [], [], _, _, _ => rfl
  | d :: ds, h, i :: is, j :: js, hi, hj, heq => by
    have hij : i = j := by
      rcases h.1 with h1 | hlt
      · have := hi.1; have := hj.1; omega
      · exact mul_add_inj (Nat.lt_of_le_of_lt (dot_le_span ds is hi.2) hlt)
          (Nat.lt_of_le_of_lt (dot_le_span ds js hj.2) hlt) heq
    subst hij
    exact congrArg (i :: ·) (desc_inj ds h.2 is js hi.2 hj.2 (Nat.add_left_cancel heq))

theorem prod_le_span (l : List (Nat × Nat)) (hne : ∀ d ∈ l, 0 < d.1) (h : DescC l) :
    prod (l.map Prod.fst) ≤ spanM1 l + 1 := by
  induction l with
  | nil => exact Nat.le_refl _
  | cons d ds ih =>
    obtain ⟨hd, hne⟩ := List.forall_mem_cons.mp hne
    have ihd := ih hne h.2
    have h1 : (d.1 - 1) * prod (ds.map Prod.fst) ≤ (d.1 - 1) * d.2 := by
      rcases h.1 with h1 | h1
      · simp [Nat.sub_eq_zero_of_le h1]
      · exact Nat.mul_le_mul_left _ (by omega)
    have := pred_mul_add d.1 (prod (ds.map Prod.fst)) hd
    simp only [List.map_cons, prod, spanM1]; omega

theorem stdChain_span_lt (l : List (Nat × Nat)) (x : Nat × Nat) (hp : ∀ d ∈ l, 0 < d.1)
    (hx : StdChain (x :: l)) : spanM1 l < x.2 ∧ DescC l := by
  induction l generalizing x with
  | nil => exact ⟨hx, trivial⟩
  | cons y ys ih =>
    obtain ⟨hy1, hp⟩ := List.forall_mem_cons.mp hp
    obtain ⟨hy, hd⟩ := ih y hp hx.2
    refine ⟨?_, Or.inr hy, hd⟩
    -- `y :: ys` spans less than `y.2 * y.1 ≤ x.2`
    have := pred_mul_add y.1 y.2 hy1
    have := Nat.mul_comm y.2 y.1 ▸ hx.1
    simp only [spanM1]; omega

theorem stdChain_desc : ∀ (l : List (Nat × Nat)), (∀ d ∈ l, 0 < d.1) → StdChain l → DescC l := by
  intro l hpos h
  rcases l with _ | ⟨x, l⟩
  · trivial
  · have ⟨hx, hd⟩ := stdChain_span_lt l x (fun d hd => hpos d (List.mem_cons_of_mem _ hd)) h
    exact ⟨Or.inr hx, hd⟩

/-- validity of a strided mapping: some ordering of its dimensions is a generalised chain -/
def ValidStrides (es ss : List Nat) : Prop :=
  es.length = ss.length ∧ ∃ l, List.Perm l (List.zip es ss) ∧ DescC l

theorem pos_of_perm_zip {es ss : List Nat} {l : List (Nat × Nat)} (hperm : l.Perm (List.zip es ss))
    (hpos : ∀ e ∈ es, 0 < e) : ∀ d ∈ l, 0 < d.1 :=
  fun d hd => hpos d.1 (List.of_mem_zip (hperm.mem_iff.mp hd)).1

/-- the standard's precondition on `layout_stride::mapping(extents, strides)` gives validity when
    the index space is non-empty -/
theorem ValidStrides.of_stdChain {es ss : List Nat} {l : List (Nat × Nat)} (hl : es.length = ss.length)
    (hperm : l.Perm (List.zip es ss)) (hpos : ∀ e ∈ es, 0 < e) (h : StdChain l) : ValidStrides es ss :=
  ⟨hl, l, hperm, stdChain_desc l (pos_of_perm_zip hperm hpos) h⟩

/-! ### the loop of `layout_stride::required_span_size` -/

theorem spanStrideGo_pos (acc : Nat) (es ss : List Nat) (h : ∀ e ∈ es, 0 < e) :
    spanStrideGo acc es ss = acc + spanM1 (List.zip es ss) := by
  induction es generalizing acc ss with
  | nil => rfl
  | cons e es ih =>
    cases ss with
    | nil => rfl
    | cons s ss =>
      obtain ⟨he, h⟩ := List.forall_mem_cons.mp h
      rw [spanStrideGo, if_neg (Nat.ne_of_gt he), ih _ ss h, Nat.add_assoc]
      rfl

/-- early return: a zero extent anywhere gives span 0 (C05) -/
theorem spanStrideGo_zero (acc : Nat) (es ss : List Nat) (h : 0 ∈ es) (hl : es.length = ss.length) :
    spanStrideGo acc es ss = 0 := by
  induction es, ss, hl using List.induction₂ generalizing acc with
  | nil => nomatch h
  | cons e es s ss hl ih =>
    rw [spanStrideGo]
    split
    · rfl
    · next he => exact ih _ ((List.mem_cons.mp h).resolve_left (Ne.symm he))

theorem spanStride_pos (es ss : List Nat) (h : ∀ e ∈ es, 0 < e) :
    spanStride es ss = spanM1 (List.zip es ss) + 1 :=
  (spanStrideGo_pos 1 es ss h).trans (Nat.add_comm ..)

theorem spanStride_zero (es ss : List Nat) (h : 0 ∈ es) (hl : es.length = ss.length) :
    spanStride es ss = 0 := spanStrideGo_zero 1 es ss h hl

end Mdspan
