import MdspanVerif.Model.ValidB
/-!
# The executable stride precondition `validStridesB` is complete for `ValidStrides`

A generalised chain in any order is one in descending key order (`sortDesc`): dimensions of
extent ≤ 1 may be moved out of the way, and of two dimensions with more than one index value
the one with the larger stride has to come first.
-/
namespace Mdspan

theorem descC_erase (d : Nat × Nat) (l : List (Nat × Nat)) (h : DescC l) :
    DescC (l.erase d) ∧ spanM1 (l.erase d) ≤ spanM1 l := by
  induction l with
  | nil => exact ⟨h, Nat.le_refl _⟩
  | cons x l ih =>
    rw [List.erase_cons]
    split
    · exact ⟨h.2, Nat.le_add_left _ _⟩
    · obtain ⟨ih1, ih2⟩ := ih h.2
      exact ⟨⟨h.1.imp_right (Nat.lt_of_le_of_lt ih2), ih1⟩, Nat.add_le_add_left ih2 _⟩

theorem descC_max (d : Nat × Nat) (hd1 : 1 < d.1) (l : List (Nat × Nat)) (h : DescC l) (hm : d ∈ l)
    (hk : ∀ x ∈ l, sortKey x ≤ d.2) : spanM1 (l.erase d) < d.2 := by
  induction l with
  | nil => nomatch hm
  | cons x l ih =>
    by_cases hx : x = d
    · rw [hx, List.erase_cons_head]
      exact (hx ▸ h.1).resolve_left (Nat.not_le.mpr hd1)
    · have hm : d ∈ l := (List.mem_cons.mp hm).resolve_left (fun e => hx e.symm)
      -- `x` comes before `d`, so it has at most one index value: its stride would exceed `d`'s
      have hx1 : x.1 ≤ 1 := Decidable.byContradiction fun hx1 => by
        have hkey : sortKey x = x.2 := if_neg hx1
        refine Nat.lt_irrefl x.2 ?_
        calc x.2 = sortKey x := hkey.symm
          _ ≤ d.2 := hk x List.mem_cons_self
          _ ≤ (d.1 - 1) * d.2 := Nat.le_mul_of_pos_left _ (Nat.sub_pos_of_lt hd1)
          _ ≤ spanM1 l := spanM1_mem_le hm
          _ < x.2 := h.1.resolve_left hx1
      rw [List.erase_cons_tail (fun e => hx (eq_of_beq e))]
      show (x.1 - 1) * x.2 + _ < _
      rw [Nat.sub_eq_zero_of_le hx1, Nat.zero_mul, Nat.zero_add]
      exact ih h.2 hm (fun y hy => hk y (List.mem_cons_of_mem _ hy))

def KeySorted : List (Nat × Nat) → Prop
  | [] => True
  | d :: ds => (∀ x ∈ ds, sortKey x ≤ sortKey d) ∧ KeySorted ds

theorem insertDesc_sorted (d : Nat × Nat) (l : List (Nat × Nat)) (h : KeySorted l) :
    KeySorted (insertDesc d l) := by
  induction l with
  | nil => exact ⟨nofun, trivial⟩
  | cons x xs ih =>
    rw [insertDesc]
    split
    · next hle =>
      exact ⟨List.forall_mem_cons.mpr ⟨hle, fun y hy => Nat.le_trans (h.1 y hy) hle⟩, h⟩
    · next hlt =>
      refine ⟨fun y hy => ?_, ih h.2⟩
      rcases List.mem_cons.mp ((insertDesc_perm d xs).mem_iff.mp hy) with rfl | hy
      · exact Nat.le_of_not_le hlt
      · exact h.1 y hy

theorem sortDesc_sorted (l : List (Nat × Nat)) : KeySorted (sortDesc l) := by
  induction l with
  | nil => trivial
  | cons d ds ih => exact insertDesc_sorted d _ ih

/-- the head `d` of `q` is erased from `p`, which stays a chain (`descC_erase`); if `d` has more than
    one index value, having the largest key it exceeds the reach of everything else in `p` (`descC_max`) -/
theorem descC_of_sorted_perm (q p : List (Nat × Nat)) (hs : KeySorted q) (hp : q.Perm p)
    (hd : DescC p) : DescC q := by
  induction q generalizing p with
  | nil => trivial
  | cons d ds ih =>
    have hmem : d ∈ p := hp.mem_iff.mp List.mem_cons_self
    have hp' : ds.Perm (p.erase d) := (hp.trans (List.perm_cons_erase hmem)).cons_inv
    refine ⟨?_, ih _ hs.2 hp' (descC_erase d p hd).1⟩
    by_cases h1 : d.1 ≤ 1
    · exact Or.inl h1
    · right
      rw [spanM1_perm hp']
      have hkey : sortKey d = d.2 := if_neg h1
      refine descC_max d (Nat.not_le.mp h1) p hd hmem (fun x hx => ?_)
      rcases List.mem_cons.mp (hp.mem_iff.mpr hx) with rfl | hx
      · exact Nat.le_of_eq hkey
      · exact hkey ▸ hs.1 x hx

theorem validStridesB_complete (es ss : List Nat) (h : ValidStrides es ss) : validStridesB es ss = true := by
  obtain ⟨hl, l, hperm, hdesc⟩ := h
  simp only [validStridesB, Bool.and_eq_true, beq_iff_eq]
  refine ⟨hl, (descB_iff _).mpr ?_⟩
  exact descC_of_sorted_perm _ l (sortDesc_sorted _) ((sortDesc_perm _).trans hperm.symm) hdesc

end Mdspan
