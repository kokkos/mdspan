import MdspanVerif.Lemmas.Strided
/-!
# Permutations of the dimensions

A permutation of the dimensions acts on the multi-indices (`perm_box`); this carries injectivity from a
generalised chain to every `ValidStrides` mapping.  The bound on the size of the index space comes over
because `spanM1` and `prod` do not depend on the order.  `perm_map_lift` (last) is a fact about lists.
-/
namespace Mdspan

/-- the maps are built by recursion on the derivation of the permutation; only their existence is used -/
theorem perm_box {l₁ l₂ : List (Nat × Nat)} (h : l₁.Perm l₂) :
    ∃ σ τ : List Nat → List Nat, ∀ is, InB is (l₁.map Prod.fst) →
      InB (σ is) (l₂.map Prod.fst) ∧ dot (σ is) (l₂.map Prod.snd) = dot is (l₁.map Prod.snd) ∧
      τ (σ is) = is := by
  induction h with
  | nil => exact ⟨id, id, fun is h => ⟨h, rfl, rfl⟩⟩
  | cons x _ ih =>
    obtain ⟨σ, τ, hσ⟩ := ih
    refine ⟨fun | i :: is => i :: σ is | [] => [], fun | i :: is => i :: τ is | [] => [],
      fun is h => ?_⟩
    rcases is with _ | ⟨i, is⟩
    · exact h.elim
    · obtain ⟨hb, hd, hinv⟩ := hσ is h.2
      exact ⟨⟨h.1, hb⟩, congrArg (i * x.2 + ·) hd, congrArg (i :: ·) hinv⟩
  | swap x y l =>
    refine ⟨fun | i :: j :: is => j :: i :: is | is => is,
      fun | i :: j :: is => j :: i :: is | is => is, fun is h => ?_⟩
    rcases is with _ | ⟨i, _ | ⟨j, is⟩⟩
    · exact h.elim
    · exact h.2.elim
    · exact ⟨⟨h.2.1, h.1, h.2.2⟩, Nat.add_left_comm .., rfl⟩
  | trans _ _ ih₁ ih₂ =>
    obtain ⟨σ₁, τ₁, h₁⟩ := ih₁
    obtain ⟨σ₂, τ₂, h₂⟩ := ih₂
    refine ⟨σ₂ ∘ σ₁, τ₁ ∘ τ₂, fun is h => ?_⟩
    obtain ⟨hb₁, hd₁, hi₁⟩ := h₁ is h
    obtain ⟨hb₂, hd₂, hi₂⟩ := h₂ _ hb₁
    exact ⟨hb₂, hd₂.trans hd₁, (congrArg τ₁ hi₂).trans hi₁⟩

theorem ValidStrides.prod_le {es ss : List Nat} (hv : ValidStrides es ss) (hpos : ∀ e ∈ es, 0 < e) :
    prod es ≤ spanM1 (List.zip es ss) + 1 := by
  obtain ⟨hl, l, hperm, hdesc⟩ := hv
  have := prod_le_span l (pos_of_perm_zip hperm hpos) hdesc
  rwa [spanM1_perm hperm, prod_perm (hperm.map _), zip_fst hl] at this

theorem inj_of_perm {l l₀ : List (Nat × Nat)} (hperm : l.Perm l₀) (hdesc : DescC l)
    (is js : List Nat) (hi : InB is (l₀.map Prod.fst)) (hj : InB js (l₀.map Prod.fst))
    (h : dot is (l₀.map Prod.snd) = dot js (l₀.map Prod.snd)) : is = js := by
  obtain ⟨σ, τ, hσ⟩ := perm_box hperm.symm
  obtain ⟨hi', hdi, hτi⟩ := hσ is hi
  obtain ⟨hj', hdj, hτj⟩ := hσ js hj
  have := desc_inj l hdesc _ _ hi' hj' (by rw [hdi, hdj, h])
  exact hτi.symm.trans ((congrArg τ this).trans hτj)

/-- **Injectivity** of every valid strided mapping, any rank. -/
theorem dot_inj (es ss is js : List Nat) (hv : ValidStrides es ss)
    (hi : InB is es) (hj : InB js es) (h : dot is ss = dot js ss) : is = js := by
  obtain ⟨hl, l, hperm, hdesc⟩ := hv
  rw [← zip_fst hl] at hi hj
  rw [← zip_snd hl] at h
  exact inj_of_perm hperm hdesc is js hi hj h

/-- a permutation of `q.map f` lifts to a permutation of `q` -/
theorem perm_map_lift {α β : Type} (f : α → β) :
    ∀ (l : List β) (q : List α), l.Perm (q.map f) →
      ∃ q' : List α, List.Perm q' q ∧ List.map f q' = l := by
  intro l
  induction l with
  | nil =>
    intro q h
    obtain rfl := List.map_eq_nil_iff.mp h.symm.eq_nil
    exact ⟨[], .refl _, rfl⟩
  | cons b l ih =>
    intro q h
    obtain ⟨a, ha, rfl⟩ := List.mem_map.mp (h.subset List.mem_cons_self)
    obtain ⟨q1, q2, rfl⟩ := List.append_of_mem ha
    have h' : l.Perm ((q1 ++ q2).map f) := by
      refine List.Perm.cons_inv (h.trans ?_)
      rw [List.map_append, List.map_append]
      exact List.perm_middle
    obtain ⟨q', hq', rfl⟩ := ih (q1 ++ q2) h'
    exact ⟨a :: q', (hq'.cons a).trans List.perm_middle.symm, rfl⟩

end Mdspan
