import MdspanVerif.Model.PaddedM
import MdspanVerif.Lemmas.Strided
/-!
# The checked operations on natural numbers that are values of the index type

The machine functions are run on lists `toI es` of natural numbers.  Every operation they perform has
operands of type `T`, `T.promote` or `int` and is carried out in `T.promote`; `V.mul_ok` … `V.mod_ok`
say that it is exact and free of UB when operands and result are values of `T`.  Which pair of operand
types it is enters through `hc`, one of the `ITy.common_*` lines of `Model/Int.lean`.
-/
namespace Mdspan

def toI (l : List Nat) : List Int := l.map Int.ofNat

@[simp] theorem toI_nil : toI [] = [] := rfl
@[simp] theorem toI_cons (a : Nat) (l : List Nat) : toI (a :: l) = (a : Int) :: toI l := rfl
theorem toI_length (es : List Nat) : (toI es).length = es.length := List.length_map _
theorem toI_append (a b : List Nat) : toI (a ++ b) = toI a ++ toI b := List.map_append
theorem toI_take (es : List Nat) (i : Nat) : (toI es).take i = toI (es.take i) := (List.map_take ..).symm
theorem toI_drop (es : List Nat) (i : Nat) : (toI es).drop i = toI (es.drop i) := (List.map_drop ..).symm
theorem toI_reverse (es : List Nat) : (toI es).reverse = toI es.reverse := (List.map_reverse ..).symm
theorem toI_dropLast (es : List Nat) : (toI es).dropLast = toI es.dropLast := (List.map_dropLast ..).symm
theorem toI_getD (l : List Nat) (r : Nat) : (toI l).getD r 0 = ((l.getD r 0 : Nat) : Int) := by
  simp only [toI, List.getD, List.getElem?_map]
  cases l[r]? <;> rfl

theorem ITy.wrap_nat (T : ITy) {a : Nat} (h : (a : Int) ≤ T.hi) : T.wrap (a : Int) = a :=
  T.wrap_id a (Int.natCast_nonneg a) h

theorem narrow_id (T : ITy) {P : ITy} {a : Nat} (h : (a : Int) ≤ T.hi) : narrow T ⟨P, a⟩ = a :=
  T.wrap_nat h

theorem u64_wrap_id (T : ITy) (a : Nat) (h : (a : Int) ≤ T.hi) : ITy.u64.wrap (a : Int) = a :=
  ITy.wrap_nat .u64 (Int.le_trans h T.hi_le_u64)

theorem natCast_beq (a b : Nat) : ((a : Int) == (b : Int)) = (a == b) := by
  rw [Bool.eq_iff_iff, beq_iff_eq, beq_iff_eq]; exact Int.ofNat_inj

theorem inB_le_hi (T : ITy) (is es : List Nat) (hb : InB is es) (he : ∀ e ∈ es, (e : Int) ≤ T.hi) :
    ∀ i ∈ is, (i : Int) ≤ T.hi := by
  induction is, es, hb using InB.induction with
  | nil => exact fun _ h => nomatch h
  | cons hi _ ih =>
    obtain ⟨he1, he2⟩ := List.forall_mem_cons.mp he
    exact List.forall_mem_cons.mpr ⟨natCast_le_of_le (Nat.le_of_lt hi) he1, ih he2⟩

namespace V

theorem arith_nat (T : ITy) {P Q : ITy} (hc : ITy.common P Q = T.promote) (op : Int → Int → Int)
    {a b c : Nat} (hop : op a b = c) (ha : (a : Int) ≤ T.hi) (hb : (b : Int) ≤ T.hi)
    (h : (c : Int) ≤ T.hi) : V.arith op ⟨P, a⟩ ⟨Q, b⟩ = .ok ⟨T.promote, c⟩ := by
  have hT : T.hi ≤ (ITy.common P Q).hi := hc ▸ T.hi_le_promote
  rw [V.arith_ok op ⟨P, a⟩ ⟨Q, b⟩ (Int.natCast_nonneg a) (Int.le_trans ha hT) (Int.natCast_nonneg b)
    (Int.le_trans hb hT) (hop ▸ Int.natCast_nonneg c) (hop ▸ Int.le_trans h hT)]
  simp only [hc, hop]

theorem mul_ok (T : ITy) {P Q : ITy} (hc : ITy.common P Q = T.promote) {a b : Nat}
    (ha : (a : Int) ≤ T.hi) (hb : (b : Int) ≤ T.hi) (h : ((a * b : Nat) : Int) ≤ T.hi) :
    V.mul ⟨P, a⟩ ⟨Q, b⟩ = .ok ⟨T.promote, ((a * b : Nat) : Int)⟩ :=
  arith_nat T hc (· * ·) (Int.natCast_mul a b).symm ha hb h

theorem add_ok (T : ITy) {P Q : ITy} (hc : ITy.common P Q = T.promote) {a b : Nat}
    (h : ((a + b : Nat) : Int) ≤ T.hi) :
    V.add ⟨P, a⟩ ⟨Q, b⟩ = .ok ⟨T.promote, ((a + b : Nat) : Int)⟩ :=
  arith_nat T hc (· + ·) (Int.natCast_add a b).symm (natCast_le_of_le (Nat.le_add_right a b) h)
    (natCast_le_of_le (Nat.le_add_left b a) h) h

theorem sub_ok (T : ITy) {P Q : ITy} (hc : ITy.common P Q = T.promote) {a b : Nat} (hba : b ≤ a)
    (ha : (a : Int) ≤ T.hi) : V.sub ⟨P, a⟩ ⟨Q, b⟩ = .ok ⟨T.promote, ((a - b : Nat) : Int)⟩ :=
  arith_nat T hc (· - ·) (Int.natCast_sub hba).symm ha (natCast_le_of_le hba ha)
    (natCast_le_of_le (Nat.sub_le a b) ha)

theorem pred_ok (T : ITy) {e : Nat} (he0 : 0 < e) (he : (e : Int) ≤ T.hi) :
    V.sub ⟨T, e⟩ ⟨.i32, 1⟩ = .ok ⟨T.promote, ((e - 1 : Nat) : Int)⟩ :=
  sub_ok T T.common_i32_right he0 he

theorem one_add_ok (T : ITy) {a : Nat} (h : ((1 + a : Nat) : Int) ≤ T.hi) :
    V.add ⟨.i32, 1⟩ ⟨T.promote, a⟩ = .ok ⟨T.promote, ((1 + a : Nat) : Int)⟩ :=
  add_ok T T.common_i32_promote (a := 1) h

theorem div_ok (T : ITy) {P Q : ITy} (hc : ITy.common P Q = T.promote) {a b : Nat} (hb0 : 0 < b)
    (ha : (a : Int) ≤ T.hi) (hb : (b : Int) ≤ T.hi) :
    V.div ⟨P, a⟩ ⟨Q, b⟩ = .ok ⟨T.promote, ((a / b : Nat) : Int)⟩ := by
  have hb' : ¬ (ITy.common P Q).wrap (b : Int) = 0 := by
    rw [hc, ITy.wrap_nat _ (Int.le_trans hb T.hi_le_promote)]
    exact Int.natCast_ne_zero.mpr (Nat.ne_of_gt hb0)
  have hdiv : Int.tdiv (a : Int) b = ((a / b : Nat) : Int) :=
    (Int.tdiv_eq_ediv_of_nonneg (Int.natCast_nonneg a)).trans (Int.natCast_ediv a b).symm
  show (if (ITy.common P Q).wrap (b : Int) = 0 then _ else V.arith Int.tdiv ⟨P, a⟩ ⟨Q, b⟩) = _
  rw [if_neg hb']
  exact arith_nat T hc Int.tdiv hdiv ha hb (natCast_le_of_le (Nat.div_le_self a b) ha)

theorem mod_ok (T : ITy) {P Q : ITy} (hc : ITy.common P Q = T.promote) {a b : Nat} (hb0 : 0 < b)
    (ha : (a : Int) ≤ T.hi) (hb : (b : Int) ≤ T.hi) :
    V.mod ⟨P, a⟩ ⟨Q, b⟩ = .ok ⟨T.promote, ((a % b : Nat) : Int)⟩ := by
  have hp := T.hi_le_promote
  have hb' : ¬ (b : Int) = 0 := Int.natCast_ne_zero.mpr (Nat.ne_of_gt hb0)
  unfold V.mod
  simp only [hc]
  rw [ITy.wrap_nat _ (Int.le_trans ha hp), ITy.wrap_nat _ (Int.le_trans hb hp), if_neg hb',
    Int.tmod_eq_emod_of_nonneg (Int.natCast_nonneg a), ← Int.natCast_emod,
    ITy.wrap_nat _ (natCast_le_of_le (Nat.mod_le a b) (Int.le_trans ha hp))]
  rfl

/-- comparisons need no common-type bookkeeping: each operand is a value of its own type -/
theorem eq_nat {P Q : ITy} {a b : Nat} (ha : (a : Int) ≤ P.hi) (hb : (b : Int) ≤ Q.hi) :
    V.eq ⟨P, a⟩ ⟨Q, b⟩ = (a == b) :=
  Bool.eq_iff_iff.mpr ((V.eq_iff ⟨P, a⟩ ⟨Q, b⟩ (Int.natCast_nonneg a) ha (Int.natCast_nonneg b) hb).trans
    (Int.ofNat_inj.trans beq_iff_eq.symm))

theorem lt_nat {P Q : ITy} {a b : Nat} (ha : (a : Int) ≤ P.hi) (hb : (b : Int) ≤ Q.hi) :
    V.lt ⟨P, a⟩ ⟨Q, b⟩ = decide (a < b) :=
  Bool.eq_iff_iff.mpr ((V.lt_iff ⟨P, a⟩ ⟨Q, b⟩ (Int.natCast_nonneg a) ha (Int.natCast_nonneg b) hb).trans
    (Int.ofNat_lt.trans decide_eq_true_iff.symm))

end V

theorem ok_bind {α β : Type} (a : α) (f : α → M β) : (Except.ok a >>= f) = f a := rfl

theorem bind_ok {α β : Type} {x : M α} {a : α} {f : α → M β} {b : β} (hx : x = .ok a)
    (hf : f a = .ok b) : x >>= f = .ok b := by rw [hx]; exact hf

theorem mapM_ok {α β : Type} (f : α → M β) (g : α → β) (l : List α) (h : ∀ a ∈ l, f a = .ok (g a)) :
    l.mapM f = .ok (l.map g) := by
  induction l with
  | nil => rfl
  | cons a l ih =>
    obtain ⟨ha, h⟩ := List.forall_mem_cons.mp h
    rw [List.mapM_cons, ha, ok_bind, ih h, ok_bind]
    rfl

theorem map_range_getD (l : List Nat) : (List.range l.length).map (fun r => ((l.getD r 0 : Nat) : Int)) = toI l := by
  induction l with
  | nil => rfl
  | cons a l ih =>
    rw [List.length_cons, List.range_succ_eq_map, List.map_cons, List.map_map]
    exact congrArg (_ :: ·) ih

/-! ### the two loop bodies: `value *= x` and the Horner step -/

theorem mulAssignM_ok (T : ITy) {v x : Nat} (hv : (v : Int) ≤ T.hi) (hx : (x : Int) ≤ T.hi)
    (h : ((v * x : Nat) : Int) ≤ T.hi) : mulAssignM T v x = .ok ((v * x : Nat) : Int) := by
  unfold mulAssignM
  rw [V.mul_ok T T.common_self hv hx h]
  exact congrArg Except.ok (narrow_id T h)

/-- `value = 1; value *= x` -/
theorem mulAssignM_one (T : ITy) {x : Nat} (hx : (x : Int) ≤ T.hi) : mulAssignM T 1 x = .ok (x : Int) := by
  have h := mulAssignM_ok T (v := 1) T.one_le_hi hx ((Nat.one_mul x).symm ▸ hx)
  rwa [Nat.one_mul] at h

theorem horner_lt {acc e i : Nat} (hi : i < e) : acc * e + i + 1 ≤ (acc + 1) * e :=
  Nat.succ_mul acc e ▸ Nat.add_le_add_left hi (acc * e)

/-- a step of an accumulator loop over `e :: es` hands the invariant `(acc + 1) * p ≤ max + 1` (`p = Π es`) on … -/
theorem horner_next {acc e i : Nat} (hi : i < e) (p : Nat) : (acc * e + i + 1) * p ≤ (acc + 1) * (e * p) :=
  Nat.mul_assoc .. ▸ Nat.mul_le_mul_right p (horner_lt hi)

/-- … and the invariant bounds the step itself as long as no extent to come is zero -/
theorem horner_now (acc e : Nat) {p : Nat} (hp : 0 < p) : (acc + 1) * e ≤ (acc + 1) * (e * p) :=
  Nat.mul_le_mul_left _ (Nat.le_mul_of_pos_right e hp)

/-- `hb`: the largest value `(acc + 1) * e - 1` of a Horner step `acc * e + i` is a value of `T` -/
theorem horner_bounds (T : ITy) {acc e i : Nat} (hi : i < e) (hb : (((acc + 1) * e : Nat) : Int) ≤ T.hi + 1) :
    ((acc * e + i : Nat) : Int) ≤ T.hi ∧ ((acc * e : Nat) : Int) ≤ T.hi ∧ (acc : Int) ≤ T.hi :=
  have hsum : ((acc * e + i : Nat) : Int) ≤ T.hi :=
    Int.le_of_lt_add_one (natCast_le_of_le (horner_lt hi) hb)
  have hmul := natCast_le_of_le (Nat.le_add_right _ i) hsum
  ⟨hsum, hmul, natCast_le_of_le (Nat.le_mul_of_pos_right _ (Nat.zero_lt_of_lt hi)) hmul⟩

theorem hornerStepM_ok (T : ITy) {α : Type} (k : Int → M α) {acc e i : Nat} (he : (e : Int) ≤ T.hi) (hi : i < e)
    (hb : (((acc + 1) * e : Nat) : Int) ≤ T.hi + 1) :
    (do let m ← V.mul ⟨T, acc⟩ ⟨T, e⟩
        let s ← V.add m ⟨T, i⟩
        k (narrow T s)) = k ((acc * e + i : Nat) : Int) := by
  obtain ⟨hsum, hmul, hacc⟩ := horner_bounds T hi hb
  rw [V.mul_ok T T.common_self hacc he hmul, ok_bind, V.add_ok T T.common_promote_left hsum, ok_bind,
    narrow_id T hsum]

/-- the step as the padded layouts write it, `i + e * acc`; in their loops the next multiple of `e` itself
    is a value of `T` -/
theorem hornerStepPadM_ok (T : ITy) {α : Type} (k : Int → M α) {acc e i : Nat} (hi : i < e)
    (hb : (((acc + 1) * e : Nat) : Int) ≤ T.hi) :
    (do let m ← V.mul ⟨T, e⟩ ⟨T, acc⟩
        let s ← V.add ⟨T, i⟩ m
        k (narrow T s)) = k ((acc * e + i : Nat) : Int) := by
  obtain ⟨hsum, hmul, hacc⟩ := horner_bounds T hi (Int.le_add_one hb)
  have he : (e : Int) ≤ T.hi := natCast_le_of_le (Nat.le_mul_of_pos_left e (Nat.succ_pos acc)) hb
  rw [Nat.mul_comm acc e] at hmul
  rw [Nat.mul_comm acc e, Nat.add_comm _ i] at hsum
  rw [Nat.mul_comm acc e, Nat.add_comm _ i, V.mul_ok T T.common_self he hacc hmul, ok_bind,
    V.add_ok T T.common_promote_right hsum, ok_bind, narrow_id T hsum]

end Mdspan
