import MdspanVerif.Model.Adm
import MdspanVerif.Lemmas.Canonical
/-!
# The admissibility measure of C14: products with zero extents counted as one

`prod1 es = Π one0 e`.  A running product `acc` over `es` is admissible when `one0 acc * prod1 es` is
a value of the index type; `prod1_step` says that one iteration hands this on.  The last section reads
the executable predicates `Layout.validB` / `Layout.admB` of `Model/Adm.lean` as propositions.
-/
namespace Mdspan

theorem one0_eq (e : Nat) : one0 e = if e = 0 then 1 else e := rfl
theorem one0_pos : ∀ e : Nat, 0 < one0 e
  | 0 => Nat.one_pos
  | _ + 1 => Nat.succ_pos _
theorem le_one0 : ∀ e : Nat, e ≤ one0 e
  | 0 => Nat.zero_le 1
  | _ + 1 => Nat.le_refl _
theorem one0_of_pos : ∀ e : Nat, 0 < e → one0 e = e
  | _ + 1, _ => rfl
theorem one0_pred : ∀ e : Nat, one0 e - 1 = e - 1
  | 0 => rfl
  | _ + 1 => rfl
theorem one0_mono : ∀ {a b : Nat}, a ≤ b → one0 a ≤ one0 b
  | 0, b, _ => one0_pos b
  | _ + 1, _ + 1, h => h

theorem one0_mul_le (a e : Nat) : one0 (a * e) ≤ one0 a * one0 e := by
  rcases Nat.eq_zero_or_pos (a * e) with h | h
  · rw [h]; exact Nat.mul_pos (one0_pos a) (one0_pos e)
  · rw [one0_of_pos _ h]; exact Nat.mul_le_mul (le_one0 a) (le_one0 e)

def prod1 : List Nat → Nat
  | [] => 1
  | e :: es => (if e = 0 then 1 else e) * prod1 es

theorem prod1_cons (e : Nat) (es : List Nat) : prod1 (e :: es) = one0 e * prod1 es := rfl

theorem prod1_pos : ∀ es : List Nat, 0 < prod1 es
  | [] => Nat.one_pos
  | e :: es => Nat.mul_pos (one0_pos e) (prod1_pos es)

theorem prod_le_prod1 : ∀ es : List Nat, prod es ≤ prod1 es
  | [] => Nat.le_refl 1
  | e :: es => Nat.mul_le_mul (le_one0 e) (prod_le_prod1 es)

theorem prod_map_one0 : ∀ es : List Nat, prod (es.map one0) = prod1 es
  | [] => rfl
  | e :: es => congrArg (one0 e * ·) (prod_map_one0 es)

theorem map_one0_pos (es : List Nat) : ∀ e ∈ es.map one0, 0 < e := by
  intro e he
  obtain ⟨x, _, rfl⟩ := List.mem_map.mp he
  exact one0_pos x

theorem map_one0_of_pos (es : List Nat) (h : ∀ e ∈ es, 0 < e) : es.map one0 = es :=
  (List.map_congr_left fun e he => one0_of_pos e (h e he)).trans (List.map_id es)

theorem prod1_eq_prod (es : List Nat) (h : ∀ e ∈ es, 0 < e) : prod1 es = prod es := by
  rw [← prod_map_one0, map_one0_of_pos es h]

theorem spanM1_zip_map_one0 (es ss : List Nat) : spanM1 (List.zip (es.map one0) ss) = spanM1 (List.zip es ss) := by
  induction es generalizing ss with
  | nil => rfl
  | cons e es ih =>
    rcases ss with _ | ⟨s, ss⟩
    · rfl
    · simp only [List.map_cons, List.zip_cons_cons, spanM1, one0_pred, ih ss]

theorem prod1_append (a b : List Nat) : prod1 (a ++ b) = prod1 a * prod1 b := by
  rw [← prod_map_one0, List.map_append, prod_append, prod_map_one0, prod_map_one0]

theorem prod1_reverse (l : List Nat) : prod1 l.reverse = prod1 l := by
  rw [← prod_map_one0, List.map_reverse, prod_reverse, prod_map_one0]

theorem prod1_sublist {a b : List Nat} (h : a.Sublist b) : prod1 a ≤ prod1 b := by
  induction h with
  | slnil => exact Nat.le_refl _
  | cons x _ ih => exact Nat.le_trans ih (Nat.le_mul_of_pos_left _ (one0_pos x))
  | cons_cons x _ ih => exact Nat.mul_le_mul_left _ ih

theorem le_one0_mul_prod1 (acc : Nat) (es : List Nat) : acc ≤ one0 acc * prod1 es :=
  Nat.le_trans (le_one0 acc) (Nat.le_mul_of_pos_right _ (prod1_pos es))

theorem prod1_step (acc e : Nat) (es : List Nat) :
    one0 (acc * e) * prod1 es ≤ one0 acc * prod1 (e :: es) := by
  rw [prod1_cons, ← Nat.mul_assoc]; exact Nat.mul_le_mul_right _ (one0_mul_le acc e)

/-! ### the canonical strides against `prod1` -/

theorem leftStridesFrom_le (p : Nat) (es : List Nat) : ∀ s ∈ leftStridesFrom p es, s ≤ p * prod1 es := by
  induction es generalizing p with
  | nil => exact fun _ h => nomatch h
  | cons e es ih =>
    rw [prod1_cons]
    refine List.forall_mem_cons.mpr
      ⟨Nat.le_mul_of_pos_right _ (Nat.mul_pos (one0_pos e) (prod1_pos es)), fun s hs => ?_⟩
    calc s ≤ p * e * prod1 es := ih (p * e) s hs
      _ ≤ p * one0 e * prod1 es := Nat.mul_le_mul_right _ (Nat.mul_le_mul_left _ (le_one0 e))
      _ = p * (one0 e * prod1 es) := Nat.mul_assoc _ _ _

theorem leftStrides_le (es : List Nat) (s : Nat) (hs : s ∈ leftStrides es) : s ≤ prod1 es :=
  Nat.one_mul (prod1 es) ▸ leftStridesFrom_le 1 es s hs

theorem rightStrides_le (es : List Nat) (s : Nat) : s ∈ rightStrides es → s ≤ prod1 es := by
  have := leftStrides_le es.reverse s
  rwa [← rightStrides_reverse, List.mem_reverse, prod1_reverse] at this

/-- the start value `p` of the running product is a variable for the induction: the head dimension
    reaches `(e - 1)·p`, and `(e - 1)·p + p = p·e` is the start value of the tail -/
theorem spanM1_leftStrides (p : Nat) (es : List Nat) :
    spanM1 (List.zip es (leftStridesFrom p es)) + p ≤ p * prod1 es := by
  induction es generalizing p with
  | nil => rw [prod1, Nat.mul_one]; exact Nat.le_of_eq (Nat.zero_add p)
  | cons e es ih =>
    replace ih := ih (p * e)
    show (e - 1) * p + spanM1 (List.zip es (leftStridesFrom (p * e) es)) + p ≤ _
    rcases Nat.eq_zero_or_pos e with rfl | he
    · -- the tail starts from 0 and reaches nothing (`ih`)
      rw [Nat.mul_zero, Nat.zero_mul, Nat.add_zero] at ih
      rw [Nat.mul_zero, Nat.le_zero.mp ih, Nat.zero_mul, Nat.zero_add]
      exact Nat.le_mul_of_pos_right _ (prod1_pos _)
    · rw [Nat.add_right_comm, pred_mul_add e p he, Nat.add_comm, Nat.mul_comm e p]
      refine Nat.le_trans ih ?_
      rw [prod1_cons, ← Nat.mul_assoc]
      exact Nat.mul_le_mul_right _ (Nat.mul_le_mul_left _ (le_one0 e))

theorem spanM1_rightStrides (es : List Nat) : spanM1 (List.zip es (rightStrides es)) + 1 ≤ prod1 es := by
  induction es with
  | nil => exact Nat.le_refl _
  | cons e es ih =>
    show (e - 1) * prod es + spanM1 (List.zip es (rightStrides es)) + 1 ≤ one0 e * prod1 es
    rw [← pred_mul_add (one0 e) _ (one0_pos e), one0_pred, Nat.add_assoc]
    exact Nat.add_le_add (Nat.mul_le_mul_left _ (prod_le_prod1 es)) ih

/-! ### what `validB` and `admB` say -/

theorem span1_left (es : List Nat) : (Layout.left es).span1 = prod1 es := prod_map_one0 es
theorem span1_right (es : List Nat) : (Layout.right es).span1 = prod1 es := prod_map_one0 es

/-- the measure of layout_stride needs no `one0`: `max(e,1) - 1 = e ∸ 1` -/
theorem span1_stride (es ss : List Nat) :
    (Layout.stride es ss).span1 = 1 + spanM1 (List.zip es ss) := by
  show spanStrideGo 1 (es.map one0) ss = _
  rw [spanStrideGo_pos 1 _ ss (map_one0_pos es), spanM1_zip_map_one0]

theorem validB_stride_elim (es ss : List Nat) (h : (Layout.stride es ss).validB = true) :
    es.length = ss.length ∧ (∀ s ∈ ss, 0 < s) ∧ ValidStrides (es.map one0) ss := by
  simp only [Layout.validB, Bool.and_eq_true, beq_iff_eq, List.all_eq_true, decide_eq_true_eq] at h
  exact ⟨h.1.1, h.1.2, validStridesB_sound _ _ h.2⟩

theorem allLe_iff (hi : Int) (l : List Nat) : allLe hi l = true ↔ ∀ x ∈ l, (x : Int) ≤ hi := by
  simp [allLe, List.all_eq_true]

theorem admB_elim (T : ITy) (L : Layout) (h : L.admB T = true) :
    L.validB = true ∧ ((L.span1 : Nat) : Int) ≤ T.hi ∧ (∀ e ∈ L.extents, (e : Int) ≤ T.hi) ∧
      (∀ s ∈ L.strides, (s : Int) ≤ T.hi) := by
  simp only [Layout.admB, Bool.and_eq_true, decide_eq_true_eq, allLe_iff] at h
  exact ⟨h.1.1.1, h.1.1.2, h.1.2, h.2⟩

end Mdspan
