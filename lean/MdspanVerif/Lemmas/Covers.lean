import MdspanVerif.Lemmas.Perm
/-!
# Exhaustiveness on dimension lists

For a non-empty index space and a generalised chain, the image of `idx ↦ Σ idx_k s_k` is all of
`[0, span)` exactly when `span = Π e`.  Proved on dimension lists in chain order, one dimension at
a time, then transported along permutations.
-/
namespace Mdspan

/-- `o` is the offset of a multi-index of `l` -/
def IsOffset (l : List (Nat × Nat)) (o : Nat) : Prop :=
  ∃ is, InB is (l.map Prod.fst) ∧ dot is (l.map Prod.snd) = o

/-- every `o` up to the largest offset is taken (`P`: on pairs; `Layout.Covers` is for a layout) -/
def CoversP (l : List (Nat × Nat)) : Prop := ∀ o, o ≤ spanM1 l → IsOffset l o

theorem isOffset_one {s : Nat} {ds : List (Nat × Nat)} (o : Nat) :
    IsOffset ((1, s) :: ds) o ↔ IsOffset ds o := by
  have h0 (is : List Nat) : dot (0 :: is) (((1, s) :: ds).map Prod.snd) = dot is (ds.map Prod.snd) := by
    simp only [List.map_cons, dot, Nat.zero_mul, Nat.zero_add]
  constructor
  · rintro ⟨_ | ⟨i, is⟩, hb, rfl⟩
    · exact hb.elim
    · obtain rfl : i = 0 := Nat.lt_one_iff.mp hb.1
      exact ⟨is, hb.2, (h0 is).symm⟩
  · rintro ⟨is, hb, rfl⟩
    exact ⟨0 :: is, ⟨Nat.one_pos, hb⟩, h0 is⟩

theorem isOffset_cons {e s : Nat} {ds : List (Nat × Nat)} (hs : spanM1 ds < s) (o : Nat) :
    IsOffset ((e, s) :: ds) o ↔ o / s < e ∧ IsOffset ds (o % s) := by
  constructor
  · rintro ⟨_ | ⟨i, is⟩, hb, rfl⟩
    · exact hb.elim
    · obtain ⟨hq, hr⟩ := mul_add_div_mod i (Nat.lt_of_le_of_lt (dot_le_span ds is hb.2) hs)
      exact ⟨hq.symm ▸ hb.1, is, hb.2, hr.symm⟩
  · rintro ⟨hq, is, hb, hr⟩
    refine ⟨o / s :: is, ⟨hq, hb⟩, ?_⟩
    show o / s * s + dot is (ds.map Prod.snd) = o
    rw [hr]; exact Nat.div_add_mod' o s

theorem coversP_cons (e s : Nat) (ds : List (Nat × Nat)) (he : 0 < e)
    (h : e ≤ 1 ∨ spanM1 ds < s) :
    CoversP ((e, s) :: ds) ↔ CoversP ds ∧ (e = 1 ∨ s = spanM1 ds + 1) := by
  rcases Nat.eq_or_lt_of_le he with rfl | he1
  · simp only [CoversP, isOffset_one, spanM1, Nat.sub_self, Nat.zero_mul, Nat.zero_add, true_or,
      and_true]
  · have hs : spanM1 ds < s := h.resolve_left (Nat.not_le_of_lt he1)
    simp only [CoversP, isOffset_cons hs, spanM1]
    constructor
    · intro hc
      refine ⟨fun o ho => ?_, ?_⟩
      · have := (hc o (Nat.le_trans ho (Nat.le_add_left _ _))).2
        rwa [Nat.mod_eq_of_lt (Nat.lt_of_le_of_lt ho hs)] at this
      · -- otherwise `spanM1 ds + 1` is an offset of `ds`
        refine Or.inr (Nat.le_antisymm (Nat.le_of_not_lt fun hgap => ?_) hs)
        have : s ≤ (e - 1) * s := Nat.le_mul_of_pos_left _ (Nat.sub_pos_of_lt he1)
        obtain ⟨is, hb, hd⟩ := (hc (spanM1 ds + 1) (by omega)).2
        rw [Nat.mod_eq_of_lt hgap] at hd
        exact Nat.not_succ_le_self _ (hd ▸ dot_le_span ds is hb)
    · rintro ⟨hc, h1 | rfl⟩ o ho
      · exact absurd h1 (Nat.ne_of_gt he1)
      · refine ⟨?_, hc _ (Nat.le_of_lt_succ (Nat.mod_lt o (Nat.add_one_pos _)))⟩
        apply (Nat.div_lt_iff_lt_mul (Nat.add_one_pos _)).mpr
        have := pred_mul_add e (spanM1 ds + 1) he
        omega

/-- the same step for `1 + Σ (e-1)·s = Π e`, where `P ≤ S + 1` are product and span of the tail -/
theorem tight_cons {e s S P : Nat} (he : 0 < e) (h : e ≤ 1 ∨ S < s) (hP : P ≤ S + 1) :
    (e - 1) * s + S + 1 = e * P ↔ S + 1 = P ∧ (e = 1 ∨ s = S + 1) := by
  rw [← pred_mul_add e P he]
  rcases Nat.eq_or_lt_of_le he with rfl | he1
  · simp
  · have hs : S < s := h.resolve_left (Nat.not_le_of_lt he1)
    constructor
    · -- summand by summand the left side is at least the right side
      intro heq
      have := Nat.mul_le_mul_left (e - 1) (Nat.le_trans hP hs)
      obtain ⟨h1, h2⟩ : (e - 1) * P = (e - 1) * s ∧ S + 1 = P := by omega
      exact ⟨h2, Or.inr (h2 ▸ (Nat.eq_of_mul_eq_mul_left (Nat.sub_pos_of_lt he1) h1).symm)⟩
    · rintro ⟨rfl, h3⟩
      rw [h3.resolve_left (Nat.ne_of_gt he1)]; rfl

theorem coversP_iff (l : List (Nat × Nat)) (hne : ∀ d ∈ l, 0 < d.1) (h : DescC l) :
    CoversP l ↔ spanM1 l + 1 = prod (l.map Prod.fst) := by
  induction l with
  | nil => exact iff_of_true (fun o ho => ⟨[], trivial, (Nat.le_zero.mp ho).symm⟩) rfl
  | cons d ds ih =>
    obtain ⟨hd, hne'⟩ := List.forall_mem_cons.mp hne
    rw [coversP_cons d.1 d.2 ds hd h.1, ih hne' h.2]
    simp only [spanM1, List.map_cons, prod]
    exact (tight_cons hd h.1 (prod_le_span ds hne' h.2)).symm

/-! ### transport along permutations of the dimensions -/

theorem coversP_perm {l1 l2 : List (Nat × Nat)} (h : l1.Perm l2) (hc : CoversP l1) : CoversP l2 := by
  intro o ho
  rw [← spanM1_perm h] at ho
  obtain ⟨is, hb, hd⟩ := hc o ho
  obtain ⟨σ, _, hσ⟩ := perm_box h
  obtain ⟨hb', hd', -⟩ := hσ is hb
  exact ⟨σ is, hb', hd'.trans hd⟩

theorem coversP_iff_of_perm {l l₀ : List (Nat × Nat)} (hperm : l.Perm l₀) (hdesc : DescC l)
    (hpos : ∀ d ∈ l₀, 0 < d.1) : CoversP l₀ ↔ spanM1 l₀ + 1 = prod (l₀.map Prod.fst) := by
  rw [← spanM1_perm hperm, ← prod_perm (hperm.map _),
    ← coversP_iff l (fun d hd => hpos d (hperm.mem_iff.mp hd)) hdesc]
  exact ⟨coversP_perm hperm.symm, coversP_perm hperm⟩

/-- for a valid strided mapping with a non-empty index space:
    its image is `[0, 1+Σ(e-1)s)` exactly when `1+Σ(e-1)s = Π e` -/
theorem covers_iff_span_eq_prod (es ss : List Nat) (hv : ValidStrides es ss)
    (hpos : ∀ e ∈ es, 0 < e) :
    (∀ o, o ≤ spanM1 (List.zip es ss) → ∃ is, InB is es ∧ dot is ss = o) ↔
      spanM1 (List.zip es ss) + 1 = prod es := by
  obtain ⟨hl, l, hperm, hdesc⟩ := hv
  have := coversP_iff_of_perm hperm hdesc (pos_of_perm_zip (.refl _) hpos)
  unfold CoversP IsOffset at this
  rwa [zip_fst hl, zip_snd hl] at this

end Mdspan
