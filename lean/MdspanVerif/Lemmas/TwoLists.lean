import MdspanVerif.Model.Layout
/-!
# Induction over two lists at once

The induction runs along a hypothesis that ties the shapes of the lists together: they are taken apart
together, and the cases in which only one of them is empty do not arise.
-/
namespace Mdspan

/-- `induction as, bs, h using List.induction₂` -/
theorem List.induction₂ {α β : Type} {motive : (as : List α) → (bs : List β) → as.length = bs.length → Prop}
    (nil : motive [] [] rfl)
    (cons : ∀ (a : α) (as : List α) (b : β) (bs : List β) (h : as.length = bs.length), motive as bs h →
      motive (a :: as) (b :: bs) (congrArg (· + 1) h)) :
    ∀ (as : List α) (bs : List β) (h : as.length = bs.length), motive as bs h
  | [], [], _ => nil
  | a :: as, b :: bs, h => cons a as b bs (Nat.succ.inj h) (List.induction₂ nil cons as bs (Nat.succ.inj h))

/-- `induction is, es, hb using InB.induction` -/
theorem InB.induction {motive : (is es : List Nat) → InB is es → Prop} (nil : motive [] [] trivial)
    (cons : ∀ {i e : Nat} {is es : List Nat} (hi : i < e) (hb : InB is es), motive is es hb →
      motive (i :: is) (e :: es) ⟨hi, hb⟩) : ∀ (is es : List Nat) (hb : InB is es), motive is es hb
  | [], [], _ => nil
  | _ :: is, _ :: es, hb => cons hb.1 hb.2 (InB.induction nil cons is es hb.2)

instance InB.dec : (is es : List Nat) → Decidable (InB is es)
  | [], [] => isTrue trivial
  | _ :: is, _ :: es => @instDecidableAnd _ _ _ (InB.dec is es)
  | [], _ :: _ | _ :: _, [] => isFalse id

end Mdspan
