import MdspanVerif.Lemmas.Prod1
import MdspanVerif.Lemmas.Slices
import MdspanVerif.Lemmas.ValidStridesB
/-!
# Slicing an admissible mapping

In the `Nat` layer: for a mapping with `Layout.admB T` and valid slices, the result mapping is
admissible again, for a `layout_stride` source (zero extents allowed) and for a kept `layout_left` /
`layout_right`.  The remaining case, a strided result of a `layout_left` / `layout_right` source,
needs a non-empty index space (`Layout.NonDeg`) and is in `Props/C14k.lean` with the chains that ask
for it (`subLayout_admB`).
-/
namespace Mdspan

/-! ### the result extents and strides are bounded by the source's -/

theorem subExts_rep (T : ITy) {sl : List Slice} {es : List Nat} (hv : SlicesValid sl es)
    (hre : ∀ e ∈ es, (e : Int) ≤ T.hi) : ∀ x ∈ subExts sl es, (x : Int) ≤ T.hi := by
  replace hv := hv.idxKeep
  induction hv with
  | nil => exact fun _ h => nomatch h
  | idx _ _ ih => exact ih (List.forall_mem_cons.mp hre).2
  | keep _ hx hv _ ih =>
    obtain ⟨he, hre⟩ := List.forall_mem_cons.mp hre
    rw [subExts_keep hx]
    exact List.forall_mem_cons.mpr ⟨natCast_le_of_le (Slice.ext_le hv hx) he, ih hre⟩

theorem prod1_subExts_le {sl : List Slice} {es : List Nat} (hv : SlicesValid sl es) :
    prod1 (subExts sl es) ≤ prod1 es := by
  replace hv := hv.idxKeep
  induction hv with
  | nil => exact Nat.le_refl _
  | @idx _ e _ _ _ _ ih => exact Nat.le_trans ih (Nat.le_mul_of_pos_left _ (one0_pos e))
  | keep _ hx hv _ ih =>
    rw [subExts_keep hx]
    exact Nat.mul_le_mul (one0_mono (Slice.ext_le hv hx)) ih

theorem mem_subStrides {sl : List Slice} {es : List Nat} (hv : SlicesValid sl es) :
    ∀ ss : List Nat, ∀ q ∈ subStrides sl ss,
      ∃ (s : Slice) (e st : Nat), (e, st) ∈ List.zip es ss ∧ s.Valid e ∧ q = st * s.step := by
  replace hv := hv.idxKeep
  induction hv with
  | nil => exact fun _ _ h => nomatch h
  | idx _ _ ih =>
    intro ss q hq
    cases ss with
    | nil => exact nomatch hq
    | cons st ss =>
      obtain ⟨s, e, st', hm, h⟩ := ih ss q hq
      exact ⟨s, e, st', List.mem_cons_of_mem _ hm, h⟩
  | @keep s e _ _ _ hi _ hv _ ih =>
    intro ss q hq
    cases ss with
    | nil => exact nomatch hq
    | cons st ss =>
      rw [subStrides_keep hi] at hq
      rcases List.mem_cons.mp hq with rfl | hq
      · exact ⟨s, e, st, List.mem_cons_self, hv, rfl⟩
      · obtain ⟨s', e', st', hm, h⟩ := ih ss q hq
        exact ⟨s', e', st', List.mem_cons_of_mem _ hm, h⟩

theorem subStrides_le {sl : List Slice} {es : List Nat} (hv : SlicesValid sl es) (ss : List Nat) :
    ∀ q ∈ subStrides sl ss, q ∈ ss ∨ q ≤ spanM1 (List.zip es ss) := by
  intro q hq
  obtain ⟨s, e, st, hm, hs, rfl⟩ := mem_subStrides hv ss q hq
  rcases Slice.step_cases hs with h | h
  · rw [h, Nat.mul_one]; exact Or.inl (List.of_mem_zip hm).2
  · right
    calc st * s.step ≤ st * (e - 1) := Nat.mul_le_mul_left _ h
      _ = (e - 1) * st := Nat.mul_comm _ _
      _ ≤ _ := spanM1_mem_le hm

theorem subStrides_pos {sl : List Slice} {es : List Nat} (hv : SlicesValid sl es) (ss : List Nat)
    (hp : ∀ s ∈ ss, 0 < s) : ∀ q ∈ subStrides sl ss, 0 < q := by
  intro q hq
  obtain ⟨s, e, st, hm, hs, rfl⟩ := mem_subStrides hv ss q hq
  exact Nat.mul_pos (hp st (List.of_mem_zip hm).2) (Slice.step_pos hs)

/-! ### slicing keeps the generalised chain -/

/-- a source dimension with its slice: (slice, (extent, stride)) -/
abbrev SDim := Slice × (Nat × Nat)

/-- the source dimension, zero extent counted as one -/
def dimOf (t : SDim) : Nat × Nat := (one0 t.2.1, t.2.2)
/-- the dimension of the result it becomes, if any -/
def subDimOf (t : SDim) : Option (Nat × Nat) :=
  (t.1.ext t.2.1).map (fun x => (one0 x, t.2.2 * t.1.step))

theorem zip_dims {sl : List Slice} {es : List Nat} (hv : SlicesValid sl es) :
    ∀ ss : List Nat, es.length = ss.length →
      (List.zip sl (List.zip es ss)).map dimOf = List.zip (es.map one0) ss ∧
      (List.zip sl (List.zip es ss)).filterMap subDimOf =
        List.zip ((subExts sl es).map one0) (subStrides sl ss) ∧
      ∀ t ∈ List.zip sl (List.zip es ss), t.1.Valid t.2.1 := by
  replace hv := hv.idxKeep
  induction hv with
  | nil => exact fun _ _ => ⟨rfl, rfl, fun _ h => nomatch h⟩
  | @idx i e _ _ hi _ ih =>
    intro ss hl
    cases ss with
    | nil => cases hl
    | cons st ss =>
      obtain ⟨h1, h2, h3⟩ := ih ss (Nat.succ.inj hl)
      exact ⟨congrArg (_ :: ·) h1, h2, List.forall_mem_cons.mpr ⟨hi, h3⟩⟩
  | @keep s e x _ _ hi hx hv _ ih =>
    intro ss hl
    cases ss with
    | nil => cases hl
    | cons st ss =>
      obtain ⟨h1, h2, h3⟩ := ih ss (Nat.succ.inj hl)
      refine ⟨congrArg (_ :: ·) h1, ?_, List.forall_mem_cons.mpr ⟨hv, h3⟩⟩
      have : subDimOf (s, e, st) = some (one0 x, st * s.step) := congrArg (Option.map _) hx
      rw [subExts_keep hx, subStrides_keep hi]
      show List.filterMap subDimOf ((s, e, st) :: _) = (one0 x, st * s.step) :: _
      rw [List.filterMap_cons, this]
      exact congrArg (_ :: ·) h2

theorem spanM1_filterMap_le (t : List SDim) (hv : ∀ x ∈ t, x.1.Valid x.2.1) :
    spanM1 (t.filterMap subDimOf) ≤ spanM1 (t.map dimOf) := by
  induction t with
  | nil => exact Nat.le_refl _
  | cons x t ih =>
    obtain ⟨hx, hv⟩ := List.forall_mem_cons.mp hv
    replace ih := ih hv
    rw [List.filterMap_cons, List.map_cons, subDimOf]
    cases he : x.1.ext x.2.1 with
    | none => exact Nat.le_trans ih (Nat.le_add_left _ _)
    | some y =>
      have h1 := Nat.mul_le_mul_right x.2.2 (Slice.ext_step_le hx he)
      show (one0 y - 1) * (x.2.2 * x.1.step) + _ ≤ (one0 x.2.1 - 1) * x.2.2 + _
      rw [one0_pred, one0_pred, Nat.mul_comm x.2.2, ← Nat.mul_assoc]
      exact Nat.add_le_add h1 ih

theorem descC_filterMap (t : List SDim) (hv : ∀ x ∈ t, x.1.Valid x.2.1) (hd : DescC (t.map dimOf)) :
    DescC (t.filterMap subDimOf) := by
  induction t with
  | nil => trivial
  | cons x t ih =>
    obtain ⟨hx, hvt⟩ := List.forall_mem_cons.mp hv
    replace ih := ih hvt hd.2
    rw [List.filterMap_cons, subDimOf]
    cases he : x.1.ext x.2.1 with
    | none => exact ih
    | some y =>
      refine ⟨?_, ih⟩
      rcases hd.1 with h1 | h1
      · exact Or.inl (Nat.le_trans (one0_mono (Slice.ext_le hx he)) h1)
      · right
        calc spanM1 (t.filterMap subDimOf) ≤ spanM1 (t.map dimOf) := spanM1_filterMap_le t hvt
          _ < x.2.2 := h1
          _ ≤ x.2.2 * x.1.step := Nat.le_mul_of_pos_right _ (Slice.step_pos hx)

/-- slicing keeps the stride precondition, zero extents counted as one on both sides.  Pairing each
    source dimension with its slice (`SDim`) makes the result dimensions a `filterMap` of the
    source's; the permutation that orders the source chain lifts to the paired list, and `filterMap`
    keeps both the permutation and the chain. -/
theorem subStrides_valid (sl : List Slice) (es ss : List Nat) (hv : SlicesValid sl es)
    (h : ValidStrides (es.map one0) ss) :
    ValidStrides ((subExts sl es).map one0) (subStrides sl ss) := by
  obtain ⟨hl, l, hperm, hdesc⟩ := h
  rw [List.length_map] at hl
  obtain ⟨hd, hs, hval⟩ := zip_dims hv ss hl
  refine ⟨by rw [List.length_map, subStrides_length sl es ss hl], ?_⟩
  rw [← hd] at hperm
  obtain ⟨t', ht', hmap⟩ := perm_map_lift dimOf l _ hperm
  refine ⟨t'.filterMap subDimOf, hs ▸ ht'.filterMap _, descC_filterMap t' ?_ (hmap ▸ hdesc)⟩
  exact fun x hx => hval x (ht'.mem_iff.mp hx)

theorem subStrides_spanM1_le (sl : List Slice) (es ss : List Nat) (hv : SlicesValid sl es)
    (hl : es.length = ss.length) :
    spanM1 (List.zip ((subExts sl es).map one0) (subStrides sl ss)) ≤
      spanM1 (List.zip (es.map one0) ss) := by
  obtain ⟨hd, hs, hval⟩ := zip_dims hv ss hl
  rw [← hd, ← hs]
  exact spanM1_filterMap_le _ hval

/-! ### admissibility: of a mapping given by its parts, and of the result of slicing -/

theorem spanM1_succ_le_span1 (L : Layout) (hL : L.Std3) :
    spanM1 (List.zip L.extents L.strides) + 1 ≤ L.span1 := by
  obtain ⟨es, ss, rfl | rfl | rfl⟩ := hL
  · rw [span1_left, ← Nat.one_mul (prod1 es)]; exact spanM1_leftStrides 1 es
  · rw [span1_right]; exact spanM1_rightStrides es
  · rw [span1_stride es ss, Nat.add_comm]; exact Nat.le_refl _

theorem subStrides_rep (T : ITy) (L : Layout) (sl : List Slice) (hL : L.Std3) (h : L.admB T = true)
    (hv : SlicesValid sl L.extents) : ∀ q ∈ subStrides sl L.strides, (q : Int) ≤ T.hi := by
  obtain ⟨_, hsp, _, hrs⟩ := admB_elim T L h
  intro q hq
  rcases subStrides_le hv L.strides q hq with hq | hle
  · exact hrs q hq
  · have hq : q ≤ L.span1 := Nat.le_trans hle (Nat.le_of_succ_le (spanM1_succ_le_span1 L hL))
    exact natCast_le_of_le hq hsp

theorem admB_intro_stride (T : ITy) (es ss : List Nat)
    (hpos : ∀ s ∈ ss, 0 < s) (hv : ValidStrides (es.map one0) ss)
    (hsp : ((1 + spanM1 (List.zip es ss) : Nat) : Int) ≤ T.hi)
    (hre : ∀ e ∈ es, (e : Int) ≤ T.hi) (hrs : ∀ s ∈ ss, (s : Int) ≤ T.hi) :
    (Layout.stride es ss).admB T = true := by
  simp only [Layout.admB, Bool.and_eq_true, decide_eq_true_eq, allLe_iff]
  refine ⟨⟨⟨?_, ?_⟩, hre⟩, hrs⟩
  · simp only [Layout.validB, Bool.and_eq_true, beq_iff_eq, List.all_eq_true, decide_eq_true_eq]
    exact ⟨⟨(List.length_map one0).symm.trans hv.1, hpos⟩, validStridesB_complete _ _ hv⟩
  · rw [span1_stride es ss]; exact hsp

theorem admB_intro_lr (T : ITy) (L : Layout) (hL : ∃ es, L = .left es ∨ L = .right es)
    (hre : ∀ e ∈ L.extents, (e : Int) ≤ T.hi) (hsp : ((prod1 L.extents : Nat) : Int) ≤ T.hi) :
    L.admB T = true := by
  simp only [Layout.admB, Bool.and_eq_true, decide_eq_true_eq, allLe_iff]
  obtain ⟨es, rfl | rfl⟩ := hL
  · exact ⟨⟨⟨rfl, by rw [span1_left]; exact hsp⟩, hre⟩,
      fun s hs => natCast_le_of_le (leftStrides_le es s hs) hsp⟩
  · exact ⟨⟨⟨rfl, by rw [span1_right]; exact hsp⟩, hre⟩,
      fun s hs => natCast_le_of_le (rightStrides_le es s hs) hsp⟩

theorem subLayout_admB_stride (T : ITy) (es ss : List Nat) (sl : List Slice)
    (h : (Layout.stride es ss).admB T = true) (hv : SlicesValid sl es) :
    (subLayout (.stride es ss) sl).admB T = true := by
  obtain ⟨hvb, hsp, hre, hrs⟩ := admB_elim T _ h
  obtain ⟨hl, hpos, hval⟩ := validB_stride_elim es ss hvb
  rw [span1_stride es ss] at hsp
  apply admB_intro_stride
  · exact subStrides_pos hv ss hpos
  · exact subStrides_valid sl es ss hv hval
  · have h1 := subStrides_spanM1_le sl es ss hv hl
    rw [spanM1_zip_map_one0, spanM1_zip_map_one0] at h1
    exact natCast_le_of_le (Nat.add_le_add_left h1 1) hsp
  · exact subExts_rep T hv hre
  · exact subStrides_rep T _ sl ⟨es, ss, Or.inr (Or.inr rfl)⟩ h hv

theorem subLayout_admB_kept (T : ITy) (L : Layout) (sl : List Slice) (h : L.admB T = true)
    (hv : SlicesValid sl L.extents)
    (hk : ∃ xs, subLayout L sl = .left xs ∨ subLayout L sl = .right xs) :
    (subLayout L sl).admB T = true := by
  obtain ⟨_, hsp, hre, _⟩ := admB_elim T L h
  have hprod : ((prod1 L.extents : Nat) : Int) ≤ T.hi := by
    rcases subLayout_cases L sl with ⟨es, rfl, _⟩ | ⟨es, rfl, _⟩ | h3
    · rwa [span1_left] at hsp
    · rwa [span1_right] at hsp
    · -- the result is a `layout_stride` mapping, which `hk` excludes
      obtain ⟨xs, hk | hk⟩ := hk <;> cases h3.symm.trans hk
  apply admB_intro_lr T _ hk <;> rw [subLayout_extents]
  · exact subExts_rep T hv hre
  · exact natCast_le_of_le (prod1_subExts_le hv) hprod

end Mdspan
