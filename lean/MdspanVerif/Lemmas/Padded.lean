import MdspanVerif.Lemmas.Canonical
/-!
# The padded layouts are left / right layouts over allocation extents
-/
namespace Mdspan

/-! ### `replaceLast` -/

theorem replaceLast_concat (ps el : Nat) : ∀ init : List Nat,
    replaceLast ps (init ++ [el]) = init ++ [ps]
  | [] => rfl
  | [_] => rfl
  | a :: b :: init => congrArg (a :: ·) (replaceLast_concat ps el (b :: init))

theorem replaceLast_eq (ps : Nat) (es : List Nat) (h : es ≠ []) :
    replaceLast ps es = es.dropLast ++ [ps] := by
  obtain ⟨init, el, rfl⟩ := (List.eq_nil_or_concat es).resolve_left h
  rw [List.concat_eq_append, replaceLast_concat, List.dropLast_concat]

theorem replaceLast_length (ps : Nat) : ∀ es : List Nat, (replaceLast ps es).length = es.length
  | [] => rfl
  | [_] => rfl
  | _ :: e :: es => congrArg (· + 1) (replaceLast_length ps (e :: es))

theorem replaceLast_map (f : Nat → Nat) (ps : Nat) : ∀ es : List Nat,
    replaceLast (f ps) (es.map f) = (replaceLast ps es).map f
  | [] => rfl
  | [_] => rfl
  | e :: e' :: es => congrArg (f e :: ·) (replaceLast_map f ps (e' :: es))

theorem replaceLast_self : ∀ es : List Nat, replaceLast (es.getD (es.length - 1) 0) es = es
  | [] => rfl
  | [_] => rfl
  | e :: e' :: es => congrArg (e :: ·) (replaceLast_self (e' :: es))

/-! ### strides -/

theorem lpadStrides_eq (ps : Nat) : ∀ es : List Nat, lpadStrides ps es = leftStrides (replaceHead ps es)
  | [] => rfl
  | [_] => rfl
  | _ :: _ :: _ => by simp only [lpadStrides, leftStrides, replaceHead, leftStridesFrom, Nat.one_mul]

/-- also at rank 1, where nothing is padded: the one stride is 1 whatever the extent -/
theorem rpadStrides_eq (ps : Nat) : ∀ es : List Nat, rpadStrides ps es = rightStrides (replaceLast ps es)
  | [] => rfl
  | [_] => rfl
  | _ :: _ :: _ => rfl

/-- the strides of layout_right_padded in the order in which `strides()` computes them -/
theorem rpadStrides_eq_rev (ps : Nat) (es : List Nat) (h : es ≠ []) :
    rpadStrides ps es = (leftStridesFrom ps es.dropLast.reverse).reverse ++ [1] := by
  rw [rpadStrides_eq, replaceLast_eq ps es h, rightStrides_concat]

theorem lpadStrides_length (ps : Nat) (es : List Nat) : (lpadStrides ps es).length = es.length := by
  rw [lpadStrides_eq, leftStrides_length]
  cases es <;> rfl

theorem rpadStrides_length (ps : Nat) (es : List Nat) : (rpadStrides ps es).length = es.length := by
  rw [rpadStrides_eq, rightStrides_length, replaceLast_length]

/-! ### offsets -/

theorem rpadGo_eq (ps acc : Nat) (es is : List Nat) (h : is.length = es.length) :
    rpadGo ps acc es is = rightGo acc (replaceLast ps es) is := by
  induction is, es, h using List.induction₂ generalizing acc with
  | nil => rfl
  | cons i is e es h ih =>
    rcases es with _ | ⟨e', es⟩
    · obtain rfl := List.length_eq_zero_iff.mp h
      rfl
    · simp only [rpadGo, replaceLast, rightGo, ih]

/-- **C02 for layout_right_padded**, through the row-major offset over `replaceLast ps es` -/
theorem rpadOff_eq_dot (ps : Nat) (es is : List Nat) (h : is.length = es.length) :
    rpadOff ps es is = dot is (rpadStrides ps es) := by
  rcases es with _ | ⟨e, _ | ⟨e', es⟩⟩
  · obtain rfl := List.length_eq_zero_iff.mp h
    rfl
  · obtain ⟨i, rfl⟩ := List.length_eq_one_iff.mp h
    exact (Nat.mul_one i).symm
  · simp only [rpadOff, rpadStrides]
    rw [rpadGo_eq ps 0 _ _ h, rightGo_eq 0 _ _ (by rw [replaceLast_length]; exact h),
      Nat.zero_mul, Nat.zero_add]

/-- **C02 for layout_left_padded**, through the column-major offset over `replaceHead ps es` -/
theorem lpadOff_eq_dot (ps : Nat) (es is : List Nat) (h : is.length = es.length) :
    lpadOff ps es is = dot is (lpadStrides ps es) := by
  rcases es with _ | ⟨e, _ | ⟨e', es⟩⟩
  · obtain rfl := List.length_eq_zero_iff.mp h
    rfl
  · obtain ⟨i, rfl⟩ := List.length_eq_one_iff.mp h
    exact (Nat.mul_one i).symm
  · obtain ⟨i, is, rfl⟩ := List.exists_cons_of_length_eq_add_one h
    rw [lpadStrides_eq]; exact leftOff_eq_dot (ps :: e' :: es) (i :: is)

/-! ### span -/

theorem rpadSpanGo_eq (ps acc : Nat) (es : List Nat) :
    rpadSpanGo ps acc es = acc * prod (replaceLast ps es) := by
  induction es generalizing acc with
  | nil => exact (Nat.mul_one acc).symm
  | cons e es ih =>
    rcases es with _ | ⟨e', es⟩
    · simp [rpadSpanGo, replaceLast, prod]
    · simp only [rpadSpanGo, replaceLast, prod, ih, Nat.mul_assoc]

theorem rpadSpan_eq (ps e e' : Nat) (es : List Nat) :
    rpadSpan ps (e :: e' :: es) = prod (replaceLast ps (e :: e' :: es)) :=
  (rpadSpanGo_eq ps 1 _).trans (Nat.one_mul _)

/-! ### the padding precondition; allocation extents -/

/-- what "the padded stride is not smaller than the extent it pads" means on lists
    (rank < 2: no padding is applied) -/
def PadOKLeft (ps : Nat) (es : List Nat) : Prop := es.length < 2 ∨ LeL es (replaceHead ps es)
/-- … for layout_right_padded, which pads the last extent -/
def PadOKRight (ps : Nat) (es : List Nat) : Prop := es.length < 2 ∨ LeL es (replaceLast ps es)

theorem padOKLeft_iff (ps e e' : Nat) (es : List Nat) : PadOKLeft ps (e :: e' :: es) ↔ e ≤ ps :=
  (or_iff_right (by simp)).trans (and_iff_left (leL_refl (e' :: es)))

theorem leL_replaceLast_iff {ps el : Nat} {es : List Nat} (hl : es.getLast? = some el) :
    LeL es (replaceLast ps es) ↔ el ≤ ps := by
  obtain ⟨init, rfl⟩ := List.getLast?_eq_some_iff.mp hl
  rw [replaceLast_concat, leL_concat]

theorem padOKRight_iff {ps el : Nat} {es : List Nat} (hl : es.getLast? = some el)
    (h2 : 2 ≤ es.length) : PadOKRight ps es ↔ el ≤ ps :=
  (or_iff_right (Nat.not_lt_of_le h2)).trans (leL_replaceLast_iff hl)

theorem lpad_alloc (ps : Nat) (es : List Nat) (hv : PadOKLeft ps es) :
    ∃ fs, LeL es fs ∧ lpadStrides ps es = leftStrides fs ∧ lpadSpan ps es = prod fs := by
  rcases es with _ | ⟨e, _ | ⟨e', es⟩⟩
  · exact ⟨[], trivial, rfl, rfl⟩
  · exact ⟨[e], leL_refl _, rfl, (Nat.mul_one e).symm⟩
  · exact ⟨ps :: e' :: es, hv.resolve_left (by simp), lpadStrides_eq .., rfl⟩

theorem rpad_alloc (ps : Nat) (es : List Nat) (hv : PadOKRight ps es) :
    ∃ fs, LeL es fs ∧ rpadStrides ps es = rightStrides fs ∧ rpadSpan ps es = prod fs := by
  rcases es with _ | ⟨e, _ | ⟨e', es⟩⟩
  · exact ⟨[], trivial, rfl, rfl⟩
  · exact ⟨[e], leL_refl _, rfl, (Nat.mul_one e).symm⟩
  · exact ⟨_, hv.resolve_left (by simp), rfl, rpadSpan_eq ps e e' es⟩

end Mdspan
