import MdspanVerif.Model.Sub
import MdspanVerif.Lemmas.Canonical
/-!
# Slices against extents

What one valid slice does, by one case analysis each (`Slice.reach` is the one with content), and
induction along a valid slice list: `SlicesValid.induction`, or `IdxKeep` where an index slice and a
slice that keeps its dimension are treated differently.
-/
namespace Mdspan

namespace Slice
variable {s : Slice} {e x j : Nat}

theorem ext_none_iff (s : Slice) (e : Nat) : s.ext e = none ↔ s.isIdx = true := by
  cases s <;> simp [ext, isIdx]

theorem isIdx_of_ext_some (hx : s.ext e = some x) : s.isIdx = false := by
  cases s <;> first | rfl | cases hx

theorem first_le (hv : s.Valid e) : s.first ≤ e := by
  cases s with
  | idx i => exact Nat.le_of_lt hv
  | range b e' => exact Nat.le_trans hv.1 hv.2
  | full => exact Nat.zero_le _
  | strided o x st => exact Nat.le_trans (Nat.le_add_right _ _) hv.1

theorem step_pos (hv : s.Valid e) : 0 < s.step := by
  cases s with
  | strided o x st =>
    show 0 < if st < x then st else 1
    split
    · next h => exact hv.2.resolve_left (Nat.ne_of_gt (Nat.zero_lt_of_lt h))
    · exact Nat.one_pos
  | _ => exact Nat.one_pos

theorem step_cases (hv : s.Valid e) : s.step = 1 ∨ s.step ≤ e - 1 := by
  cases s with
  | strided o x st =>
    simp only [step]
    split
    · next h => exact Or.inr (Nat.le_sub_one_of_lt (Nat.lt_of_lt_of_le h (Nat.le_trans (Nat.le_add_left x o) hv.1)))
    · exact Or.inl rfl
  | _ => exact Or.inl rfl

/-- element `j` of the kept dimension is the source index `first + j·step`: it lies inside the extent -/
theorem reach (hv : s.Valid e) (hx : s.ext e = some x) (hj : j < x) : s.first + j * s.step < e := by
  cases s with
  | idx i => cases hx
  | range b e' =>
    cases hx
    show b + j * 1 < e
    rw [Nat.mul_one]
    exact Nat.lt_of_lt_of_le (Nat.add_lt_of_lt_sub' hj) hv.2
  | full =>
    cases hx
    show 0 + j * 1 < e
    rwa [Nat.zero_add, Nat.mul_one]
  | strided o xx st =>
    obtain ⟨h1, h2⟩ : o + xx ≤ e ∧ (xx = 0 ∨ 0 < st) := hv
    cases hx
    have hj : j < if xx > 0 then 1 + (xx - 1) / st else 0 := hj
    rcases Nat.eq_zero_or_pos xx with rfl | hxx
    · exact absurd hj (Nat.not_lt_zero j)
    · have hst := h2.resolve_left (Nat.ne_of_gt hxx)
      -- element `j` exists iff `j·st ≤ xx - 1`, and the slice stride is at most `st`
      rw [if_pos hxx, Nat.add_comm, Nat.lt_succ_iff, Nat.le_div_iff_mul_le hst] at hj
      have hle : (strided o xx st).step ≤ st := by
        show (if st < xx then st else 1) ≤ st
        split
        · exact Nat.le_refl _
        · exact hst
      calc o + j * (strided o xx st).step ≤ o + j * st := Nat.add_le_add_left (Nat.mul_le_mul_left j hle) o
        _ ≤ o + (xx - 1) := Nat.add_le_add_left hj o
        _ < o + xx := Nat.add_lt_add_left (Nat.sub_lt hxx Nat.one_pos) o
        _ ≤ e := h1

theorem ext_pos_first_lt (hv : s.Valid e) (hx : s.ext e = some x) (hpos : 0 < x) : s.first < e := by
  simpa using reach hv hx hpos

theorem ext_step_le (hv : s.Valid e) (hx : s.ext e = some x) : (x - 1) * s.step ≤ e - 1 := by
  rcases Nat.eq_zero_or_pos x with rfl | hpos
  · exact Nat.le_trans (Nat.le_of_eq (Nat.zero_mul _)) (Nat.zero_le _)
  · apply Nat.le_sub_one_of_lt
    calc (x - 1) * s.step ≤ s.first + (x - 1) * s.step := Nat.le_add_left _ _
      _ < e := reach hv hx (Nat.sub_lt hpos Nat.one_pos)

theorem ext_le (hv : s.Valid e) (hx : s.ext e = some x) : x ≤ e := by
  rcases Nat.eq_zero_or_pos x with rfl | hpos
  · exact Nat.zero_le _
  · have he : 0 < e := Nat.zero_lt_of_lt (ext_pos_first_lt hv hx hpos)
    apply Nat.le_of_pred_lt
    calc x - 1 ≤ (x - 1) * s.step := Nat.le_mul_of_pos_right _ (step_pos hv)
      _ ≤ e - 1 := ext_step_le hv hx
      _ < e := Nat.sub_lt he Nat.one_pos

end Slice

theorem SlicesValid.induction {motive : (sls : List Slice) → (es : List Nat) → SlicesValid sls es → Prop}
    (nil : motive [] [] trivial)
    (cons : ∀ {sl : Slice} {e : Nat} {sls : List Slice} {es : List Nat} (h : sl.Valid e)
      (hv : SlicesValid sls es), motive sls es hv → motive (sl :: sls) (e :: es) ⟨h, hv⟩) :
    ∀ (sls : List Slice) (es : List Nat) (hv : SlicesValid sls es), motive sls es hv
  | [], [], _ => nil
  | _ :: sls, _ :: es, hv => cons hv.1 hv.2 (SlicesValid.induction nil cons sls es hv.2)

theorem slicesValid_length (sls : List Slice) (es : List Nat) (h : SlicesValid sls es) :
    sls.length = es.length := by
  induction sls, es, h using SlicesValid.induction with
  | nil => rfl
  | cons _ _ ih => exact congrArg Nat.succ ih

/-- `SlicesValid`, as an inductive family: each slice is either an index (the dimension goes) or
    keeps its dimension, with result extent `x` -/
inductive IdxKeep : List Slice → List Nat → Prop
  | nil : IdxKeep [] []
  | idx {i e : Nat} {sls es} : i < e → IdxKeep sls es → IdxKeep (.idx i :: sls) (e :: es)
  | keep {sl : Slice} {e x : Nat} {sls es} : sl.isIdx = false → sl.ext e = some x → sl.Valid e →
      IdxKeep sls es → IdxKeep (sl :: sls) (e :: es)

theorem SlicesValid.idxKeep {sls : List Slice} {es : List Nat} (hv : SlicesValid sls es) :
    IdxKeep sls es := by
  induction sls, es, hv using SlicesValid.induction with
  | nil => exact .nil
  | @cons sl e _ _ h _ ih =>
    cases hx : sl.ext e with
    | some x => exact .keep (Slice.isIdx_of_ext_some hx) hx h ih
    | none =>
      cases sl with
      | idx i => exact .idx h ih
      | _ => cases hx

/-! ### one step of `subExts`, `subStrides`, `compose`, by whether the slice is an index -/

section cons
variable {sl : Slice} {sls : List Slice} {e x : Nat} {es : List Nat}

theorem subExts_idx (hi : sl.isIdx = true) : subExts (sl :: sls) (e :: es) = subExts sls es := by
  simp only [subExts, (sl.ext_none_iff e).mpr hi]

theorem subExts_keep (hx : sl.ext e = some x) :
    subExts (sl :: sls) (e :: es) = x :: subExts sls es := by simp only [subExts, hx]

theorem subStrides_idx (hi : sl.isIdx = true) (s : Nat) (ss : List Nat) :
    subStrides (sl :: sls) (s :: ss) = subStrides sls ss := by
  simp only [subStrides, hi, if_true]

theorem subStrides_keep (hi : sl.isIdx = false) (s : Nat) (ss : List Nat) :
    subStrides (sl :: sls) (s :: ss) = s * sl.step :: subStrides sls ss := by
  simp only [subStrides, hi, Bool.false_eq_true, if_false]

theorem compose_idx (hi : sl.isIdx = true) (js : List Nat) :
    compose (sl :: sls) js = sl.first :: compose sls js := by
  simp only [compose, hi, if_true]

theorem compose_keep (hi : sl.isIdx = false) (j : Nat) (js : List Nat) :
    compose (sl :: sls) (j :: js) = (sl.first + j * sl.step) :: compose sls js := by
  simp only [compose, hi, Bool.false_eq_true, if_false]
end cons

theorem compose_nil (sls : List Slice) : compose sls [] = firsts sls := by
  induction sls with
  | nil => rfl
  | cons sl sls ih =>
    simp only [compose, firsts, List.map_cons] at ih ⊢
    split <;> rw [ih]

/-! ### lengths -/

theorem compose_length (sls : List Slice) (js : List Nat) : (compose sls js).length = sls.length := by
  induction sls generalizing js with
  | nil => rfl
  | cons sl sls ih =>
    cases hi : sl.isIdx with
    | true => rw [compose_idx hi]; exact congrArg Nat.succ (ih js)
    | false =>
      cases js with
      | nil => rw [compose_nil]; exact List.length_map _
      | cons j js => rw [compose_keep hi]; exact congrArg Nat.succ (ih js)

theorem firsts_length (sls : List Slice) : (firsts sls).length = sls.length := List.length_map _

theorem subExts_length_le : ∀ (sls : List Slice) (es : List Nat), (subExts sls es).length ≤ sls.length := by
  intro sls es
  induction sls generalizing es with
  | nil => exact Nat.le_refl _
  | cons sl sls ih =>
    cases es with
    | nil => exact Nat.zero_le _
    | cons e es =>
      cases hx : sl.ext e with
      | none => rw [subExts_idx ((sl.ext_none_iff e).mp hx)]; exact Nat.le_succ_of_le (ih es)
      | some x => rw [subExts_keep hx]; exact Nat.succ_le_succ (ih es)

theorem subStrides_length : ∀ (sls : List Slice) (es ss : List Nat), es.length = ss.length →
    (subStrides sls ss).length = (subExts sls es).length := by
  intro sls es ss h
  induction es, ss, h using List.induction₂ generalizing sls with
  | nil => cases sls <;> rfl
  | cons e es s ss _ ih =>
    cases sls with
    | nil => rfl
    | cons sl sls =>
      cases hx : sl.ext e with
      | none =>
        have hi := (sl.ext_none_iff e).mp hx
        rw [subStrides_idx hi, subExts_idx hi]; exact ih sls
      | some x =>
        rw [subStrides_keep (Slice.isIdx_of_ext_some hx), subExts_keep hx]
        exact congrArg Nat.succ (ih sls)

/-! ### the result mapping: `subLayout_cases` is how every proof takes `subLayout` apart -/

theorem subLayout_cases (L : Layout) (sls : List Slice) :
    (∃ es, L = .left es ∧ preserveLeft sls = true ∧ subLayout L sls = .left (subExts sls es)) ∨
    (∃ es, L = .right es ∧ preserveRight sls = true ∧ subLayout L sls = .right (subExts sls es)) ∨
    subLayout L sls = .stride (subExts sls L.extents) (subStrides sls L.strides) := by
  cases L with
  | left es =>
    cases h : preserveLeft sls
    · exact Or.inr (Or.inr (if_neg (Bool.eq_false_iff.mp h)))
    · exact Or.inl ⟨es, rfl, rfl, if_pos h⟩
  | right es =>
    cases h : preserveRight sls
    · exact Or.inr (Or.inr (if_neg (Bool.eq_false_iff.mp h)))
    · exact Or.inr (Or.inl ⟨es, rfl, rfl, if_pos h⟩)
  | _ => exact Or.inr (Or.inr rfl)

/-- one of the three layouts `submdspan_mapping` is specified for (and returns) -/
def Layout.Std3 (L : Layout) : Prop :=
  ∃ es ss, L = .left es ∨ L = .right es ∨ L = .stride es ss

theorem subLayout_std3 (L : Layout) (sl : List Slice) : (subLayout L sl).Std3 := by
  rcases subLayout_cases L sl with ⟨es, _, _, h⟩ | ⟨es, _, _, h⟩ | h <;> rw [h]
  · exact ⟨_, [], Or.inl rfl⟩
  · exact ⟨_, [], Or.inr (Or.inl rfl)⟩
  · exact ⟨_, _, Or.inr (Or.inr rfl)⟩

theorem subLayout_extents (L : Layout) (sls : List Slice) :
    (subLayout L sls).extents = subExts sls L.extents := by
  rcases subLayout_cases L sls with ⟨es, rfl, _, h⟩ | ⟨es, rfl, _, h⟩ | h <;> rw [h] <;> rfl

theorem subLayout_strides_length (L : Layout) (hsl : L.strides.length = L.extents.length)
    (sls : List Slice) :
    (subLayout L sls).strides.length = (subLayout L sls).extents.length := by
  rcases subLayout_cases L sls with ⟨es, rfl, _, h⟩ | ⟨es, rfl, _, h⟩ | h <;> rw [h]
  · exact leftStrides_length _
  · exact rightStrides_length _
  · exact subStrides_length sls _ _ hsl.symm

/-! ### the validity predicates are decidable: closed instances are checked by evaluation -/

instance (e : Nat) : (s : Slice) → Decidable (s.Valid e)
  | .idx _ => inferInstanceAs (Decidable (_ < _))
  | .range _ _ | .strided _ _ _ => inferInstanceAs (Decidable (_ ∧ _))
  | .full => isTrue trivial

instance SlicesValid.dec : (sls : List Slice) → (es : List Nat) → Decidable (SlicesValid sls es)
  | [], [] => isTrue trivial
  | _ :: sls, _ :: es => @instDecidableAnd _ _ _ (SlicesValid.dec sls es)
  | [], _ :: _ | _ :: _, [] => isFalse id

end Mdspan
