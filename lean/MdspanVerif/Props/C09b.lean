import MdspanVerif.Props.C09
/-!
# C09 — layout_right: the mirror image of layout_left

`preserve_layout_right_mapping` asks of the slice at position `i` what
`preserve_layout_left_mapping` asks of the slice at position `i` from the end, and the rule
`index* (full | pair)? full*` is `full* (full | pair)? index*` read backwards.
-/
namespace Mdspan

theorem keepLeft_concat (b : Nat) (l : List Slice) (s : Slice) :
    keepLeft b (l ++ [s]) = (keepLeft b l && keeps (b - l.length) s) := by
  induction l generalizing b with
  | nil => exact Bool.and_comm _ _
  | cons a l ih =>
    rw [List.cons_append, keepLeft, ih (b - 1), keepLeft, Bool.and_assoc,
      List.length_cons, Nat.sub_sub, Nat.add_comm 1]

/-- at position `i`, with `t` still to come, `i + t.length - (n - sr)` slices may still keep their
    dimension (`sr` of them when `i + t.length = n`) -/
theorem preserveRightAt_eq (n sr i : Nat) (t : List Slice) :
    preserveRightAt n sr i t = keepLeft (i + t.length - (n - sr)) t.reverse := by
  induction t generalizing i with
  | nil => rfl
  | cons s t ih =>
    have hb : i + (t.length + 1) - (n - sr) = i + 1 + t.length - (n - sr) :=
      congrArg (· - (n - sr)) (Nat.add_right_comm i t.length 1)
    have hb' : i + 1 + t.length - (n - sr) - t.length = i + 1 - (n - sr) := by
      rw [Nat.sub_right_comm, Nat.add_sub_cancel]
    rw [preserveRightAt, ih (i + 1), List.reverse_cons, keepLeft_concat, List.length_reverse,
      List.length_cons, hb, hb', keeps, ← decide_lt_eq_sub, ← beq_eq_sub, Bool.and_comm,
      Bool.and_comm s.isRange]

theorem presLeftSpec_concat (s : Slice) (l : List Slice) : presLeftSpec (l ++ [s]) =
      if s.isIdx then presLeftSpec l else l.all Slice.isFull && (s.isRange || s.isFull) := by
  induction l with
  | nil => cases s <;> rfl
  | cons a l ih =>
    have hall : (l ++ [s]).all Slice.isIdx = if s.isIdx then l.all Slice.isIdx else false := by
      rw [List.all_append, List.all_cons, List.all_nil, Bool.and_true]
      cases s.isIdx
      · exact Bool.and_false _
      · exact Bool.and_true _
    cases a with
    | full => exact ih.trans (by cases s.isIdx <;> rfl)
    | range _ _ => exact hall.trans (by cases s.isIdx <;> rfl)
    | idx _ => exact hall.trans (by cases s.isIdx <;> rfl)
    | strided _ _ _ => cases s.isIdx <;> rfl

theorem presRightSpec_eq_reverse (sls : List Slice) : presRightSpec sls = presLeftSpec sls.reverse := by
  induction sls with
  | nil => rfl
  | cons s l ih =>
    rw [List.reverse_cons, presLeftSpec_concat, List.all_reverse, presRightSpec, ih]
    cases s with
    | idx _ => rfl
    | strided _ _ _ => exact (Bool.and_false _).symm
    | _ => exact (Bool.and_true _).symm

theorem presLeftSpec_map (f : Slice → Slice) (hi : ∀ s, (f s).isIdx = s.isIdx)
    (hf : ∀ s, (f s).isFull = s.isFull) (hr : ∀ s, (f s).isRange = s.isRange) (sls : List Slice) :
    presLeftSpec (sls.map f) = presLeftSpec sls := by
  induction sls with
  | nil => rfl
  | cons s sls ih =>
    have hall : (sls.map f).all Slice.isIdx = sls.all Slice.isIdx := by
      rw [List.all_map]; exact congrArg sls.all (funext hi)
    rw [List.map_cons, presLeftSpec, presLeftSpec, hi, hf, hr, hall, ih]

theorem presRightSpec_map (f : Slice → Slice) (hi : ∀ s, (f s).isIdx = s.isIdx)
    (hf : ∀ s, (f s).isFull = s.isFull) (hr : ∀ s, (f s).isRange = s.isRange) (sls : List Slice) :
    presRightSpec (sls.map f) = presRightSpec sls := by
  rw [presRightSpec_eq_reverse, presRightSpec_eq_reverse, ← List.map_reverse, presLeftSpec_map f hi hf hr]

/-- **C09 (layout_right)**: `preserve_layout_right_mapping` is true exactly for
    `index* (full | pair)? full*`, for slice lists of every length. -/
theorem C09_preserveRight (sls : List Slice) : preserveRight sls = presRightSpec sls := by
  rw [presRightSpec_eq_reverse, ← keepLeft_subRank, subRank_reverse, preserveRight, preserveRightAt_eq,
    Nat.zero_add, Nat.sub_sub_self (subRank_le_length sls)]
  rcases subRank sls with _ | k
  · rw [keepLeft_zero]; rfl
  · rfl

end Mdspan
