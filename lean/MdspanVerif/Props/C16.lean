import MdspanVerif.Model.Types2
import MdspanVerif.Lemmas.TwoLists
/-!
# C16 (extents part) — participation and explicitness follow the specification, and an implicit
# conversion has no precondition (`implicit_total`; not conversely)
-/
namespace Mdspan

/-- spec: equal rank and compatible static extents (`Spec.extSub` of Model/Types2 is the same rule
    as a `Bool`: `extSub_iff`) -/
def Spec.extConstructible (dst src : ExtT) : Prop :=
  dst.pat.length = src.pat.length ∧
  ∀ (r a b : Nat), dst.pat[r]? = some (some a) → src.pat[r]? = some (some b) → a = b

/-- spec: a dynamic extent becomes static, or the index range narrows (as a `Bool`:
    `Spec.extExpl`, `extExpl_iff`) -/
def Spec.extExplicit (dst src : ExtT) : Prop :=
  (∃ r : Nat, (∃ s : Nat, dst.pat[r]? = some (some s)) ∧ src.pat[r]? = some none) ∨ dst.idx.hi < src.idx.hi

/-! ## the folds of the headers are the specification as a `Bool` (`Spec.extSub`, `Spec.extExpl`,
`Spec.extSubI`), the form the mapping table uses -/

theorem compatible1_eq (l r : Option Nat) :
    Impl.compatible1 l r = (l.isNone || r.isNone || l == r) := by cases l <;> cases r <;> rfl

theorem checkCompatible_eq_all (l r : Pattern) (h : l.length = r.length) :
    Impl.checkCompatible l r =
      (l.zip r).all (fun ab => ab.1.isNone || ab.2.isNone || ab.1 == ab.2) := by
  induction l, r, h using List.induction₂ with
  | nil => rfl
  | cons x l y r _ ih => rw [Impl.checkCompatible, ih, compatible1_eq]; rfl

theorem extSub_eq (E F : ExtT) : Spec.extSub E F = Impl.extConstructible E F := by
  unfold Impl.extConstructible Spec.extSub
  cases h : E.pat.length == F.pat.length
  · rfl
  · exact (checkCompatible_eq_all _ _ (beq_iff_eq.mp h)).symm

theorem explicitFold_eq_any (l r : Pattern) :
    Impl.explicitFold l r = (l.zip r).any (fun ab => ab.1.isSome && ab.2.isNone) := by
  induction l generalizing r with
  | nil => rfl
  | cons x l ih => cases r with
    | nil => rfl
    | cons y r => rw [Impl.explicitFold, ih]; rfl

theorem extExpl_eq (E F : ExtT) : Spec.extExpl E F = Impl.extExplicit E F := by
  rw [Spec.extExpl, Impl.extExplicit, explicitFold_eq_any]

theorem extSubI_eq (E F : ExtT) : Spec.extSubI E F = Impl.extConvertible E F := by
  rw [Spec.extSubI, Impl.extConvertible, extSub_eq, extExpl_eq]

/-! ## the `Bool` is the proposition -/

theorem mem_zip_iff {α β} {l : List α} {r : List β} {x : α × β} :
    x ∈ l.zip r ↔ ∃ k : Nat, l[k]? = some x.1 ∧ r[k]? = some x.2 := by
  simp only [List.mem_iff_getElem?, List.getElem?_zip_eq_some]

/-- **C16 (extents, participation)** for every rank -/
theorem C16_ext_constructible (dst src : ExtT) :
    Impl.extConstructible dst src = true ↔ Spec.extConstructible dst src := by
  simp only [← extSub_eq, Spec.extSub, Spec.extConstructible, Bool.and_eq_true, beq_iff_eq,
    List.all_eq_true, mem_zip_iff]
  refine and_congr_right fun _ => ⟨fun h k a b ha hb => ?_, fun h x ⟨k, h1, h2⟩ => ?_⟩
  · exact Option.some.inj (beq_iff_eq.mp (h (some a, some b) ⟨k, ha, hb⟩))
  · obtain ⟨_ | a, _ | b⟩ := x   -- only two static extents have to agree
    · rfl
    · rfl
    · rfl
    · exact beq_iff_eq.mpr (congrArg some (h k a b h1 h2))

/-- **C16 (extents, explicitness)** for every rank -/
theorem C16_ext_explicit (dst src : ExtT) :
    Impl.extExplicit dst src = true ↔ Spec.extExplicit dst src := by
  simp only [← extExpl_eq, Spec.extExpl, Spec.extExplicit, Bool.or_eq_true,
    decide_eq_true_eq, List.any_eq_true, mem_zip_iff]
  refine or_congr ⟨fun ⟨x, ⟨k, h1, h2⟩, hx⟩ => ?_,
    fun ⟨k, ⟨s, h1⟩, h2⟩ => ⟨(some s, none), ⟨k, h1, h2⟩, rfl⟩⟩ Iff.rfl
  obtain ⟨_ | a, _ | b⟩ := x   -- `hx`: the target is static and the source dynamic
  · cases hx
  · cases hx
  · exact ⟨k, ⟨a, h1⟩, h2⟩
  · cases hx

theorem extSub_iff (E F : ExtT) : Spec.extSub E F = true ↔ Spec.extConstructible E F := by
  rw [extSub_eq]; exact C16_ext_constructible E F

theorem extExpl_iff (E F : ExtT) : Spec.extExpl E F = true ↔ Spec.extExplicit E F := by
  rw [extExpl_eq]; exact C16_ext_explicit E F

/-! ## implicit conversions of extents -/

/-- **why implicit is safe**: among constructible pairs, an implicit conversion has no
    precondition — every extents value of the source type is a value of the target type.
    (The converse does not hold: a narrowing conversion from an all-static source is explicit
    although it cannot fail.) -/
theorem implicit_total (dst src : ExtT) (hc : Spec.extConstructible dst src)
    (hne : ¬ Spec.extExplicit dst src) (vals : List Nat) (hv : src.Holds vals) : dst.Holds vals := by
  have hno : ∀ (r s : Nat), dst.pat[r]? = some (some s) → ∃ b, src.pat[r]? = some (some b) := by
    intro r s hs
    have hlt : r < src.pat.length := hc.1 ▸ (List.getElem?_eq_some_iff.mp hs).1
    rw [List.getElem?_eq_getElem hlt]
    cases hsr : src.pat[r] with
    | none => exact absurd (Or.inl ⟨r, ⟨s, hs⟩, by rw [List.getElem?_eq_getElem hlt, hsr]⟩) hne
    | some b => exact ⟨b, rfl⟩
  refine ⟨by rw [hv.1, hc.1], ?_, ?_⟩
  · intro r s hs
    obtain ⟨b, hb⟩ := hno r s hs
    rw [hv.2.1 r b hb, hc.2 r s b hs hb]
  · exact fun v hvm => Int.le_trans (hv.2.2 v hvm) (Int.not_lt.mp fun h => hne (Or.inr h))

theorem extConvertible_iff (E F : ExtT) :
    Impl.extConvertible E F = true ↔ Spec.extConstructible E F ∧ ¬ Spec.extExplicit E F := by
  rw [← C16_ext_constructible, ← C16_ext_explicit, Impl.extConvertible, Bool.and_eq_true,
    Bool.not_eq_true', Bool.not_eq_true]

theorem extConvertible_self (E : ExtT) : Impl.extConvertible E E = true := by
  refine (extConvertible_iff E E).mpr ⟨⟨rfl, fun r a b ha hb => ?_⟩, ?_⟩
  · cases ha.symm.trans hb; rfl
  · rintro (⟨r, ⟨s, hs⟩, hn⟩ | h)
    · cases hs.symm.trans hn
    · exact Int.lt_irrefl _ h

theorem extConstructible_rank (E F : ExtT) (h : Impl.extConstructible E F = true) :
    E.rank = F.rank := ((C16_ext_constructible E F).mp h).1

theorem extConvertible_total (E F : ExtT) (h : Impl.extConvertible E F = true) (vals : List Nat)
    (hv : F.Holds vals) : E.Holds vals :=
  have ⟨hc, hne⟩ := (extConvertible_iff E F).mp h
  implicit_total E F hc hne vals hv

theorem extConvertible_hi (E F : ExtT) (h : Impl.extConvertible E F = true) :
    F.idx.hi ≤ E.idx.hi :=
  Int.not_lt.mp fun hlt => ((extConvertible_iff E F).mp h).2 (Or.inr hlt)

end Mdspan
