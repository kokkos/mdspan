import MdspanVerif.Lemmas.Slices
/-!
# C04 — submdspan views alias exactly the selected elements of their source

The parts that hold for bare lists of strides and extents: the aliasing equation, the composed
index, and the rule by which `layout_left` / `layout_right` is kept: under it the surviving source
strides are the canonical strides of the result extents.  The theorem about mappings, `C04_alias`,
is in `C04b.lean`.
-/
namespace Mdspan

/-- the aliasing equation for arbitrary source strides: pure distributivity, any rank -/
theorem sub_alias_dot : ∀ (sls : List Slice) (ss js : List Nat), sls.length = ss.length →
    dot (firsts sls) ss + dot js (subStrides sls ss) = dot (compose sls js) ss := by
  intro sls ss js hl
  induction sls, ss, hl using List.induction₂ generalizing js with
  | nil => cases js <;> rfl
  | cons sl sls s ss _ ih =>
    cases hi : sl.isIdx with
    | true =>
      rw [subStrides_idx hi, compose_idx hi]
      show sl.first * s + dot (firsts sls) ss + _ = sl.first * s + _
      rw [Nat.add_assoc, ih]
    | false =>
      cases js with
      | nil => rw [compose_nil]; rfl
      | cons j js =>
        rw [subStrides_keep hi, compose_keep hi]
        show sl.first * s + dot (firsts sls) ss + (j * (s * sl.step) + dot js (subStrides sls ss)) =
          (sl.first + j * sl.step) * s + dot (compose sls js) ss
        rw [← ih, Nat.add_mul, Nat.mul_assoc, Nat.mul_comm sl.step s]
        exact Nat.add_add_add_comm ..

theorem compose_inB : ∀ (sls : List Slice) (es js : List Nat), SlicesValid sls es →
    InB js (subExts sls es) → InB (compose sls js) es := by
  intro sls es js hv
  replace hv := hv.idxKeep
  induction hv generalizing js with
  | nil => intro h; cases js with
    | nil => trivial
    | cons _ _ => exact h.elim
  | idx hi _ ih => exact fun h => ⟨hi, ih _ h⟩
  | keep hi hx hv _ ih =>
    rw [subExts_keep hx]
    cases js with
    | nil => exact False.elim
    | cons j js => rw [compose_keep hi]; exact fun h => ⟨Slice.reach hv hx h.1, ih _ h.2⟩

/-! ### when the layout is kept -/

/-- layout_left is kept for `full* (full|range)? idx*` (incl. all-index, rank 0) -/
def presLeftSpec : List Slice → Bool
  | [] => true
  | sl :: sls =>
    if sl.isFull then presLeftSpec sls
    else if sl.isRange || sl.isIdx then sls.all Slice.isIdx
    else false

/-- layout_right is kept for `idx* (full|range)? full*` -/
def presRightSpec : List Slice → Bool
  | [] => true
  | sl :: sls =>
    if sl.isIdx then presRightSpec sls
    else if sl.isRange || sl.isFull then sls.all Slice.isFull
    else false

theorem subStrides_allIdx (sls : List Slice) (ss : List Nat) (h : sls.all Slice.isIdx = true) :
    subStrides sls ss = [] := by
  induction sls generalizing ss with
  | nil => rfl
  | cons sl sls ih =>
    rw [List.all_cons, Bool.and_eq_true] at h
    cases ss with
    | nil => rfl
    | cons s ss => rw [subStrides_idx h.1, ih ss h.2]

theorem subExts_allIdx (sls : List Slice) (es : List Nat) (h : sls.all Slice.isIdx = true) :
    subExts sls es = [] := by
  induction sls generalizing es with
  | nil => rfl
  | cons sl sls ih =>
    rw [List.all_cons, Bool.and_eq_true] at h
    cases es with
    | nil => rfl
    | cons e es => rw [subExts_idx h.1, ih es h.2]

theorem presLeft_strides : ∀ (p : Nat) (sls : List Slice) (es : List Nat), sls.length = es.length →
    presLeftSpec sls = true →
    subStrides sls (leftStridesFrom p es) = leftStridesFrom p (subExts sls es) := by
  intro p sls es hl h
  induction sls, es, hl using List.induction₂ generalizing p with
  | nil => rfl
  | cons sl sls e es _ ih =>
    cases sl with
    | full =>
      show p * 1 :: subStrides sls (leftStridesFrom (p * e) es) = p :: leftStridesFrom (p * e) (subExts sls es)
      rw [Nat.mul_one, ih (p * e) h]
    | range b e' =>
      -- `presLeftSpec` of `.range b e' :: sls` evaluates to this
      have h : sls.all Slice.isIdx = true := h
      show p * 1 :: subStrides sls (leftStridesFrom (p * e) es) = leftStridesFrom p ((e' - b) :: subExts sls es)
      rw [Nat.mul_one, subStrides_allIdx sls _ h, subExts_allIdx sls es h]; rfl
    | idx i =>
      have h : sls.all Slice.isIdx = true := h
      show subStrides sls (leftStridesFrom (p * e) es) = leftStridesFrom p (subExts sls es)
      rw [subStrides_allIdx sls _ h, subExts_allIdx sls es h]; rfl
    | strided o x s => cases h

theorem sub_allFull_right (sls : List Slice) (es : List Nat) (hl : sls.length = es.length)
    (h : sls.all Slice.isFull = true) :
    subStrides sls (rightStrides es) = rightStrides es ∧ subExts sls es = es := by
  induction sls, es, hl using List.induction₂ with
  | nil => exact ⟨rfl, rfl⟩
  | cons sl sls e es _ ih =>
    rw [List.all_cons, Bool.and_eq_true] at h
    obtain ⟨h1, h2⟩ := ih h.2
    cases sl with
    | full =>
      show prod es * 1 :: subStrides sls (rightStrides es) = prod es :: rightStrides es ∧
        e :: subExts sls es = e :: es
      rw [h1, h2, Nat.mul_one]; exact ⟨rfl, rfl⟩
    | _ => cases h.1

theorem presRight_strides : ∀ (sls : List Slice) (es : List Nat), sls.length = es.length →
    presRightSpec sls = true →
    subStrides sls (rightStrides es) = rightStrides (subExts sls es) := by
  intro sls es hl h
  induction sls, es, hl using List.induction₂ with
  | nil => rfl
  | cons sl sls e es hl' ih =>
    cases sl with
    | idx i => exact ih h
    | range b e' =>
      -- `h` is `sls.all Slice.isFull = true` by evaluating `presRightSpec`
      obtain ⟨h1, h2⟩ := sub_allFull_right sls es hl' h
      show prod es * 1 :: subStrides sls (rightStrides es) = rightStrides ((e' - b) :: subExts sls es)
      rw [h1, h2, Nat.mul_one]; rfl
    | full =>
      obtain ⟨h1, h2⟩ := sub_allFull_right sls es hl' h
      show prod es * 1 :: subStrides sls (rightStrides es) = rightStrides (e :: subExts sls es)
      rw [h1, h2, Nat.mul_one]; rfl
    | strided o x s => cases h

end Mdspan
