import MdspanVerif.Model.Mdarray
import MdspanVerif.Props.C01
/-!
# C12 — mdarray owns a large-enough container, accesses it through its mapping, aliases with
its own views only, copies deeply and moves by transfer
-/
namespace Mdspan

/-! ## value layer -/

/-- size-constructible container: exactly `required_span_size()` elements -/
theorem C12_ctor_size_vector (L : Layout) :
    (Mdarray.ofMapping .vector L).containerSize = L.span := by
  simp [Mdarray.ofMapping, Mdarray.containerSize, CtrKind.initLen]

/-- `std::array<T,N>` container: `N` elements, which is enough *provided* `N ≥ span`; the
    code does not check that proviso (see `C12_array_unchecked`) -/
theorem C12_ctor_size_array (L : Layout) (n : Nat) (h : L.span ≤ n) :
    (Mdarray.ofMapping (.array n) L).containerSize = n ∧
    L.span ≤ (Mdarray.ofMapping (.array n) L).containerSize := by
  simp [Mdarray.ofMapping, Mdarray.containerSize, CtrKind.initLen, h]

/-- the elements are value-initialised, whichever container kind -/
theorem C12_ctor_value_init (k : CtrKind) (L : Layout) :
    (∀ x ∈ (Mdarray.ofMapping k L).ctr, x = 0) ∧ ∀ is, (Mdarray.ofMapping k L).get is = 0 := by
  constructor
  · intro x hx
    exact (List.mem_replicate.mp hx).2
  · intro is
    simp only [Mdarray.get, Mdarray.ofMapping, List.getD_eq_getElem?_getD, List.getElem?_replicate]
    split <;> rfl

theorem C12_ctor_mapping (k : CtrKind) (L : Layout) :
    (Mdarray.ofMapping k L).map = L ∧ (Mdarray.ofMapping k L).kind = k := ⟨rfl, rfl⟩

/-- **finding**: with a `std::array` container nothing relates `N` to the span: the object is
    constructed, reports `size() = 10`, and owns 4 elements -/
theorem C12_array_unchecked :
    let a := Mdarray.ofMapping (.array 4) (.right [10])
    a.containerSize = 4 ∧ a.map.span = 10 ∧ a.size = 10 := by decide +kernel

theorem C12_adopt_keeps (L : Layout) (c : List Int) (k : CtrKind) :
    (Mdarray.adopt L c k).ctr = c ∧ (Mdarray.adopt L c k).map = L := ⟨rfl, rfl⟩

/-- the converting constructor copies the container unchanged and installs the converted mapping -/
theorem C12_convert_keeps (L' : Layout) (a : Mdarray) :
    (Mdarray.convert L' a).ctr = a.ctr ∧ (Mdarray.convert L' a).map = L' := ⟨rfl, rfl⟩

/-- for an index inside the extents of a valid mapping the addressed cell exists: no access
    outside the container -/
theorem C12_access_inb (a : Mdarray) (is : List Nat) (hv : a.map.Valid)
    (hb : InB is a.map.extents) (hs : a.map.span ≤ a.ctr.length) :
    a.map.offset is < a.containerSize :=
  Nat.lt_of_lt_of_le (C01_range a.map hv is hb) hs

/-- element access addresses exactly the container cell `mapping()(is...)` -/
theorem C12_access (a : Mdarray) (is : List Nat) (v : Int) :
    a.get is = a.ctr.getD (a.map.offset is) 0 ∧
    (a.set is v).ctr = a.ctr.set (a.map.offset is) v ∧
    (a.set is v).map = a.map ∧ (a.set is v).kind = a.kind ∧
    (a.map.Valid → InB is a.map.extents → a.map.span ≤ a.ctr.length →
      ∃ h : a.map.offset is < a.ctr.length, a.get is = a.ctr[a.map.offset is]) := by
  refine ⟨rfl, rfl, rfl, rfl, fun hv hb hs => ?_⟩
  have h : a.map.offset is < a.ctr.length := C12_access_inb a is hv hb hs
  exact ⟨h, by simp [Mdarray.get, h]⟩

/-- a write changes the addressed element and no other element of the index space -/
theorem C12_write_frame (a : Mdarray) (is : List Nat) (v : Int) (hv : a.map.Valid)
    (hb : InB is a.map.extents) (hs : a.map.span ≤ a.ctr.length) :
    (a.set is v).get is = v ∧
    (∀ js, InB js a.map.extents → js ≠ is → (a.set is v).get js = a.get js) ∧
    (a.set is v).containerSize = a.containerSize := by
  have h : a.map.offset is < a.ctr.length := C12_access_inb a is hv hb hs
  refine ⟨?_, fun js hj hne => ?_, List.length_set⟩
  · simp only [Mdarray.get, Mdarray.set, List.getD_eq_getElem?_getD, List.getElem?_set_self h,
      Option.getD_some]
  · have hoff : a.map.offset is ≠ a.map.offset js :=
      fun he => hne (C01_inj a.map hv is js hb hj he).symm
    simp only [Mdarray.get, Mdarray.set, List.getD_eq_getElem?_getD, List.getElem?_set_ne hoff]

/-- `size()` is the product of the extents: how `Mdarray.size` is defined; the driver compares the
    library's `size()` with it -/
theorem C12_size (a : Mdarray) : a.size = prod a.map.extents := rfl

theorem C12_prod_le_span (L : Layout) (hv : L.Valid) : prod L.extents ≤ L.span := by
  by_cases h0 : 0 ∈ L.extents
  · rw [(prod_eq_zero_iff _).mpr h0]; exact Nat.zero_le _
  · have hpos := pos_of_not_mem_zero _ h0
    exact Nat.le_trans ((valid_strides L hv hpos).prod_le hpos) (span_ge L hv hpos)

/-- `size() ≤ required_span_size() ≤ container().size()` -/
theorem C12_size_le_container (a : Mdarray) (hv : a.map.Valid) (hs : a.map.span ≤ a.ctr.length) :
    a.size ≤ a.map.span ∧ a.map.span ≤ a.containerSize ∧ a.size ≤ a.containerSize :=
  ⟨C12_prod_le_span a.map hv, hs, Nat.le_trans (C12_prod_le_span a.map hv) hs⟩

/-- the defaulted copy constructor copies both members.  In the value layer a copy is the same
    value: this says nothing about storage; `C12_copy_independent` does -/
theorem C12_copy_value (a : Mdarray) (is : List Nat) (v : Int) :
    let b := a
    (b.set is v).ctr = a.ctr.set (a.map.offset is) v ∧ b.ctr = a.ctr := ⟨rfl, rfl⟩

/-! ## pool layer: storage identity -/

theorem AHeap.put_same (h : AHeap) (a : Nat) (c : List Int) : (h.put a c) a = c := if_pos rfl
theorem AHeap.put_other (h : AHeap) (a b : Nat) (c : List Int) (hne : b ≠ a) : (h.put a c) b = h b :=
  if_neg hne
theorem APool.putSlot_same (f : Nat → Option ASlot) (i : Nat) (v : Option ASlot) :
    APool.putSlot f i v i = v := if_pos rfl
theorem APool.putSlot_other (f : Nat → Option ASlot) (i k : Nat) (v : Option ASlot) (hne : k ≠ i) :
    APool.putSlot f i v k = f k := if_neg hne
theorem APool.putSlot_some {f : Nat → Option ASlot} {i k : Nat} {sl sk : ASlot}
    (h : APool.putSlot f i (some sl) k = some sk) : (k = i ∧ sl = sk) ∨ (k ≠ i ∧ f k = some sk) := by
  by_cases hk : k = i
  · rw [hk, APool.putSlot_same] at h; exact .inl ⟨hk, Option.some.inj h⟩
  · rw [APool.putSlot_other _ _ _ _ hk] at h; exact .inr ⟨hk, h⟩

/-- one live object: buffer allocated, mapping valid, buffer length allowed by the container kind
    and at least the span unless moved-from, moved-from only as an empty `std::vector` -/
def ASlot.Ok (s : APool) (sl : ASlot) : Prop :=
  sl.cid < s.next ∧ sl.map.Valid ∧ sl.kind.Fits (s.heap sl.cid).length ∧
  (sl.moved = false → sl.map.span ≤ (s.heap sl.cid).length) ∧
  (sl.moved = true → sl.kind = .vector ∧ s.heap sl.cid = [])

/-- the invariant: every object is `Ok` and no two objects share a buffer -/
def APool.Inv (s : APool) : Prop :=
  (∀ i sl, s.slots i = some sl → sl.Ok s) ∧
  (∀ i j si sj, s.slots i = some si → s.slots j = some sj → si.cid = sj.cid → i = j)

/-- a view into the buffer of a live, not moved-from object that stays inside that buffer
    (`to_mdspan()` is one: `C12_toMdspan_into`) -/
def MdView.Into (s : APool) (v : MdView) : Prop :=
  ∃ i si, s.slots i = some si ∧ si.moved = false ∧ v.base = si.cid ∧ v.map.Valid ∧
    v.map.span ≤ (s.heap v.base).length

/-- preconditions of the operations (those of the C++ constructors / operators).  `i ≠ j`: a
    constructor's target is a new object, and self-move-assignment is excluded; no proof below
    takes it from `Pre` (the theorems on copies and moves assume it separately) -/
def APool.Pre (s : APool) : AOp → Prop
  | .ofMapping _ k L => L.Valid ∧ ∀ n, k = .array n → L.span ≤ n     -- second conjunct: NOT checked by the code
  | .adopt _ k L c => L.Valid ∧ L.span ≤ c.length ∧ k.Fits c.length   -- the `assert`
  | .copyCons i j => i ≠ j ∧ ∃ sj, s.slots j = some sj
  | .convCons i j L' => i ≠ j ∧ L'.Valid ∧ ∃ sj, s.slots j = some sj ∧ L'.span ≤ sj.map.span
  | .moveCons i j => i ≠ j ∧ ∃ sj, s.slots j = some sj
  | .copyAssign i j => ∃ si sj, s.slots i = some si ∧ s.slots j = some sj ∧ si.kind = sj.kind
  | .moveAssign i j => i ≠ j ∧ ∃ si sj, s.slots i = some si ∧ s.slots j = some sj ∧ si.kind = sj.kind
  | .writeArr i is _ => ∃ si, s.slots i = some si ∧ si.moved = false ∧ InB is si.map.extents
  | .writeView v is _ => v.Into s ∧ InB is v.map.extents

def APool.PreAll : APool → List AOp → Prop
  | _, [] => True
  | s, op :: ops => s.Pre op ∧ (s.step op).PreAll ops

theorem C12_inv_init : APool.init.Inv :=
  And.intro (fun _ _ h => nomatch h) (fun _ _ _ _ h => nomatch h)

theorem ASlot.Ok.frame {s s' : APool} {sl : ASlot} (h : sl.Ok s) (hn : s.next ≤ s'.next)
    (hl : (s'.heap sl.cid).length = (s.heap sl.cid).length) : sl.Ok s' := by
  obtain ⟨hcid, hvalid, hfits, hspan, hmoved⟩ := h
  refine And.intro (Nat.lt_of_lt_of_le hcid hn)
    ⟨hvalid, hl ▸ hfits, hl ▸ hspan, fun hm => ⟨(hmoved hm).1, ?_⟩⟩
  exact List.eq_nil_of_length_eq_zero (by rw [hl, (hmoved hm).2]; rfl)

/-- the one way the pool changes shape: slot `i` receives an object that is `Ok` in the new state
    and whose buffer no other slot owns -/
theorem APool.Inv.install {s : APool} (hI : s.Inv) {i n : Nat} {sl : ASlot} {h' : AHeap}
    (hn : s.next ≤ n) (hh : ∀ b, b ≠ sl.cid → h' b = s.heap b)
    (hu : ∀ k sk, s.slots k = some sk → sk.cid = sl.cid → k = i)
    (hok : sl.Ok ⟨APool.putSlot s.slots i (some sl), h', n⟩) :
    APool.Inv ⟨APool.putSlot s.slots i (some sl), h', n⟩ := by
  have hu' : ∀ k sk, APool.putSlot s.slots i (some sl) k = some sk → sk.cid = sl.cid → k = i := by
    intro k sk h he
    rcases APool.putSlot_some h with ⟨hk, _⟩ | ⟨_, h⟩
    · exact hk
    · exact hu k sk h he
  constructor
  · intro k sk h
    rcases APool.putSlot_some h with ⟨_, rfl⟩ | ⟨hk, h⟩
    · exact hok
    · exact (hI.1 k sk h).frame hn (congrArg _ (hh _ fun he => hk (hu k sk h he)))
  · intro a b sa sb ha hb hab
    rcases APool.putSlot_some ha with ⟨ra, rfl⟩ | ⟨_, ha'⟩
    · exact ra.trans (hu' b sb hb hab.symm).symm
    · rcases APool.putSlot_some hb with ⟨rb, rfl⟩ | ⟨_, hb'⟩
      · exact (hu' a sa ha hab).trans rb.symm
      · exact hI.2 a b sa sb ha' hb' hab

theorem APool.Inv.construct {s : APool} (hI : s.Inv) (i : Nat) (L : Layout) (k : CtrKind)
    (c : List Int) (mv : Bool) (hv : L.Valid) (hf : k.Fits c.length)
    (hs : mv = false → L.span ≤ c.length) (hm : mv = true → k = .vector ∧ c = []) :
    (s.construct i L k c mv).Inv := by
  refine hI.install (Nat.le_succ _) (fun b hb => AHeap.put_other _ _ _ _ hb)
    (fun k sk h he => absurd he (Nat.ne_of_lt (hI.1 k sk h).1)) ?_
  simp only [ASlot.Ok, AHeap.put_same]
  exact ⟨Nat.lt_succ_self _, hv, hf, hs, hm⟩

/-- a `std::vector` move is the construction of an empty moved-from object in slot `j` followed
    by handing `sj`, whose buffer is then nobody's, to slot `i` -/
theorem APool.Inv.steal {s : APool} (hI : s.Inv) (i j : Nat) (sj : ASlot)
    (hj : s.slots j = some sj) (hk : sj.kind = .vector) : (s.steal i j sj).Inv := by
  have hj' := hI.1 j sj hj
  have ⟨hcid, hvalid, _⟩ := hj'
  have h1 := hI.construct j sj.map sj.kind [] true hvalid (hk ▸ trivial)
    nofun (fun _ => ⟨hk, rfl⟩)
  have hne : sj.cid ≠ s.next := Nat.ne_of_lt hcid
  refine h1.install (Nat.le_refl _) (fun _ _ => rfl) ?_
    (hj'.frame (Nat.le_succ _) (congrArg _ (AHeap.put_other _ _ _ _ hne)))
  intro k sk h he
  rcases APool.putSlot_some h with ⟨_, rfl⟩ | ⟨hkj, h⟩
  · exact absurd he.symm hne
  · exact absurd (hI.2 k j sk sj h hj he) hkj

theorem APool.Inv.overwrite {s : APool} (hI : s.Inv) (i j : Nat) (si sj : ASlot)
    (hi : s.slots i = some si) (hj : s.slots j = some sj) (hk : si.kind = sj.kind) :
    (s.overwrite i si sj).Inv := by
  obtain ⟨hcid, -⟩ := hI.1 i si hi
  obtain ⟨-, hvalid, hfits, hspan, hmoved⟩ := hI.1 j sj hj
  refine hI.install (Nat.le_refl _) (fun b hb => AHeap.put_other _ _ _ _ hb)
    (fun k sk h he => hI.2 k i sk si h hi he) ?_
  simp only [ASlot.Ok, AHeap.put_same]
  exact ⟨hcid, hvalid, hk ▸ hfits, hspan, fun h => hk ▸ hmoved h⟩

/-- element writes (through an array or through any view): the buffer keeps its length -/
theorem APool.Inv.write {s : APool} (hI : s.Inv) (a o : Nat) (x : Int) :
    ({ s with heap := s.heap.put a ((s.heap a).set o x) } : APool).Inv := by
  refine And.intro (fun k sl h => (hI.1 k sl h).frame (Nat.le_refl _) ?_) hI.2
  show ((s.heap.put a _) sl.cid).length = _
  by_cases hb : sl.cid = a
  · rw [hb, AHeap.put_same, List.length_set]
  · rw [AHeap.put_other _ _ _ _ hb]

/-- a deep copy of the object in slot `j` into a fresh buffer -/
theorem APool.Inv.clone {s : APool} (hI : s.Inv) (i j : Nat) (sj : ASlot) (hj : s.slots j = some sj) :
    (s.construct i sj.map sj.kind (s.heap sj.cid) sj.moved).Inv :=
  have ⟨_, hvalid, hfits, hspan, hmoved⟩ := hI.1 j sj hj
  hI.construct _ _ _ _ _ hvalid hfits hspan hmoved

/-- **C12 (one step)**: every operation, under its precondition, preserves the invariant -/
theorem C12_step_inv (s : APool) (op : AOp) (hI : s.Inv) (hp : s.Pre op) : (s.step op).Inv := by
  cases op with
  | ofMapping i k L =>
    obtain ⟨hv, hn⟩ := hp
    cases k with
    | vector =>
      exact hI.construct _ _ _ _ _ hv trivial
        (fun _ => Nat.le_of_eq List.length_replicate.symm) nofun
    | array n =>
      exact hI.construct _ _ _ _ _ hv List.length_replicate
        (fun _ => Nat.le_trans (hn n rfl) (Nat.le_of_eq List.length_replicate.symm)) nofun
  | adopt i k L c =>
    obtain ⟨hv, hs, hf⟩ := hp
    exact hI.construct _ _ _ _ _ hv hf (fun _ => hs) nofun
  | copyCons i j =>
    obtain ⟨_, sj, hj⟩ := hp
    simp only [APool.step, hj]
    exact hI.clone i j sj hj
  | convCons i j L' =>
    obtain ⟨_, hv, sj, hj, hs⟩ := hp
    obtain ⟨_, _, hfits, hspan, hmoved⟩ := hI.1 j sj hj
    simp only [APool.step, hj]
    exact hI.construct _ _ _ _ _ hv hfits (fun h => Nat.le_trans hs (hspan h)) hmoved
  | moveCons i j =>
    obtain ⟨_, sj, hj⟩ := hp
    simp only [APool.step, hj]
    split
    · next hk => exact hI.steal i j sj hj hk
    · exact hI.clone i j sj hj
  | copyAssign i j =>
    obtain ⟨si, sj, hi, hj, hk⟩ := hp
    simp only [APool.step, hi, hj]
    split
    · exact hI.clone i j sj hj
    · exact hI.overwrite i j si sj hi hj hk
  | moveAssign i j =>
    obtain ⟨_, si, sj, hi, hj, hk⟩ := hp
    simp only [APool.step, hi, hj]
    split
    · next hv => exact hI.steal i j sj hj (hk ▸ hv)
    · exact hI.overwrite i j si sj hi hj hk
  | writeArr i is v =>
    obtain ⟨si, hi, _, _⟩ := hp
    simp only [APool.step, hi]
    exact hI.write _ _ _
  | writeView v is x =>
    exact hI.write _ _ _

/-- every intermediate state of a history whose preconditions hold satisfies the invariant -/
theorem C12_run_prefix (ops : List AOp) (s : APool) (hI : s.Inv) (hp : s.PreAll ops) (n : Nat) :
    (s.run (ops.take n)).Inv := by
  induction ops generalizing s n with
  | nil => rw [List.take_nil]; exact hI
  | cons op ops ih =>
    cases n with
    | zero => exact hI
    | succ n => exact ih (s.step op) (C12_step_inv s op hI hp.1) hp.2 n

/-- **C12 (histories)**: from the empty pool — or any state satisfying the invariant — every
    sequence of operations whose preconditions hold leads to a state satisfying the invariant:
    every live, not moved-from mdarray owns at least `required_span_size()` elements, and no two
    mdarrays ever share storage -/
theorem C12_run (ops : List AOp) (s : APool) (hI : s.Inv) (hp : s.PreAll ops) : (s.run ops).Inv :=
  List.take_length (l := ops) ▸ C12_run_prefix ops s hI hp ops.length

/-! ## what the operations do to the mdarray values -/

theorem APool.arr_of_slot {s : APool} {i : Nat} {sl : ASlot} (h : s.slots i = some sl) :
    s.arr i = some ⟨sl.map, s.heap sl.cid, sl.kind⟩ := congrArg (Option.map _) h

theorem APool.arr_congr {s s' : APool} {k k' : Nat} (hs : s'.slots k' = s.slots k)
    (hh : ∀ sl, s.slots k = some sl → s'.heap sl.cid = s.heap sl.cid) : s'.arr k' = s.arr k := by
  unfold APool.arr
  rw [hs]
  cases h : s.slots k with
  | none => rfl
  | some sl => exact congrArg (fun c => some (⟨sl.map, c, sl.kind⟩ : Mdarray)) (hh sl h)

theorem APool.Inv.put_next {s : APool} (hI : s.Inv) (c : List Int) {k : Nat} (sl : ASlot)
    (h : s.slots k = some sl) : (s.heap.put s.next c) sl.cid = s.heap sl.cid :=
  AHeap.put_other _ _ _ _ (Nat.ne_of_lt (hI.1 k sl h).1)

theorem APool.Inv.put_cid {s : APool} (hI : s.Inv) {i k a : Nat} {si : ASlot} (hi : s.slots i = some si)
    (ha : a = si.cid) (hki : k ≠ i) (c : List Int) (sl : ASlot) (h : s.slots k = some sl) :
    (s.heap.put a c) sl.cid = s.heap sl.cid :=
  AHeap.put_other _ _ _ _ fun he => hki (hI.2 k i sl si h hi (he.trans ha))

theorem APool.arr_construct_self (s : APool) (i : Nat) (L : Layout) (k : CtrKind) (c : List Int) (mv : Bool) :
    (s.construct i L k c mv).arr i = some ⟨L, c, k⟩ := by
  simp [APool.arr, APool.construct, APool.putSlot_same, AHeap.put_same]

theorem APool.arr_construct_other (s : APool) (hI : s.Inv) (i k' : Nat) (L : Layout) (k : CtrKind)
    (c : List Int) (mv : Bool) (hne : k' ≠ i) : (s.construct i L k c mv).arr k' = s.arr k' :=
  APool.arr_congr (APool.putSlot_other _ _ _ _ hne) (hI.put_next c)

theorem APool.arr_steal_target (s : APool) (hI : s.Inv) (i j : Nat) (sj : ASlot) (hj : s.slots j = some sj) :
    (s.steal i j sj).arr i = s.arr j ∧ (s.steal i j sj).slots i = some sj :=
  have hi : (s.steal i j sj).slots i = some sj := APool.putSlot_same ..
  ⟨APool.arr_congr (hi.trans hj.symm) (hI.put_next []), hi⟩

theorem APool.arr_steal_source (s : APool) (i j : Nat) (sj : ASlot) (hij : i ≠ j) :
    (s.steal i j sj).arr j = some ⟨sj.map, [], sj.kind⟩ := by
  have hji := hij.symm
  simp [APool.arr, APool.steal, APool.putSlot_other _ _ _ _ hji, APool.putSlot_same, AHeap.put_same]

theorem APool.arr_steal_other (s : APool) (hI : s.Inv) (i j k : Nat) (sj : ASlot) (hki : k ≠ i) (hkj : k ≠ j) :
    (s.steal i j sj).arr k = s.arr k :=
  APool.arr_congr ((APool.putSlot_other _ _ _ _ hki).trans (APool.putSlot_other _ _ _ _ hkj)) (hI.put_next [])

theorem APool.arr_overwrite_self (s : APool) (i : Nat) (si sj : ASlot) :
    (s.overwrite i si sj).arr i = some ⟨sj.map, s.heap sj.cid, si.kind⟩ := by
  simp [APool.arr, APool.overwrite, APool.putSlot_same, AHeap.put_same]

theorem APool.arr_overwrite_other (s : APool) (hI : s.Inv) (i k : Nat) (si sj : ASlot)
    (hi : s.slots i = some si) (hki : k ≠ i) : (s.overwrite i si sj).arr k = s.arr k :=
  APool.arr_congr (APool.putSlot_other _ _ _ _ hki) (hI.put_cid hi rfl hki _)

theorem APool.arr_clone (s : APool) (hI : s.Inv) (i j : Nat) (sj : ASlot) (hj : s.slots j = some sj)
    (hji : j ≠ i) :
    (s.construct i sj.map sj.kind (s.heap sj.cid) sj.moved).arr i = s.arr j ∧
    (s.construct i sj.map sj.kind (s.heap sj.cid) sj.moved).arr j = s.arr j :=
  ⟨(APool.arr_construct_self ..).trans (APool.arr_of_slot hj).symm,
   APool.arr_construct_other s hI _ _ _ _ _ _ hji⟩

theorem APool.arr_overwrite (s : APool) (hI : s.Inv) (i j : Nat) (si sj : ASlot)
    (hi : s.slots i = some si) (hj : s.slots j = some sj) (hk : si.kind = sj.kind) (hji : j ≠ i) :
    (s.overwrite i si sj).arr i = s.arr j ∧ (s.overwrite i si sj).arr j = s.arr j :=
  ⟨(APool.arr_overwrite_self ..).trans (hk ▸ (APool.arr_of_slot hj).symm),
   APool.arr_overwrite_other s hI _ _ _ _ hi hji⟩

/-- construction from extents / a mapping, and from a container, produce the value-layer objects -/
theorem C12_step_ctor (s : APool) (i : Nat) (k : CtrKind) (L : Layout) (c : List Int) :
    (s.step (.ofMapping i k L)).arr i = some (Mdarray.ofMapping k L) ∧
    (s.step (.adopt i k L c)).arr i = some (Mdarray.adopt L c k) :=
  ⟨APool.arr_construct_self .., APool.arr_construct_self ..⟩

/-- ... and leave every other mdarray alone -/
theorem C12_step_ctor_frame (s : APool) (hI : s.Inv) (i k' : Nat) (k : CtrKind) (L : Layout)
    (c : List Int) (hne : k' ≠ i) :
    (s.step (.ofMapping i k L)).arr k' = s.arr k' ∧ (s.step (.adopt i k L c)).arr k' = s.arr k' :=
  ⟨APool.arr_construct_other s hI i k' L k _ false hne, APool.arr_construct_other s hI i k' L k c false hne⟩

/-- the converting constructor: converted mapping, same elements, fresh storage -/
theorem C12_step_conv (s : APool) (i j : Nat) (L' : Layout) (sj : ASlot) (hj : s.slots j = some sj) :
    (s.step (.convCons i j L')).arr i = (s.arr j).map (Mdarray.convert L') := by
  simp only [APool.step, hj, APool.arr_construct_self, APool.arr_of_slot hj]
  rfl

/-- a write through the mdarray is `Mdarray.set` on its value -/
theorem C12_step_write (s : APool) (i : Nat) (is : List Nat) (v : Int) :
    (s.step (.writeArr i is v)).arr i = (s.arr i).map (·.set is v) := by
  cases h : s.slots i with
  | none => simp [APool.step, APool.arr, h]
  | some si => simp [APool.step, APool.arr, h, AHeap.put_same, Mdarray.set]

/-! ## views -/

/-- `to_mdspan()` / conversion operators: `data_handle() == data()`, same mapping, and the view
    reads exactly the mdarray's elements -/
theorem C12_toMdspan (s : APool) (i : Nat) (si : ASlot) (hi : s.slots i = some si) :
    si.toMdspan.base = si.cid ∧ si.toMdspan.map = si.map ∧
    ∀ a, s.arr i = some a → ∀ is, si.toMdspan.get s.heap is = a.get is := by
  refine ⟨rfl, rfl, fun a ha is => ?_⟩
  cases (APool.arr_of_slot hi).symm.trans ha
  rfl

/-- the view obtained from a live mdarray stays inside its container -/
theorem C12_toMdspan_into (s : APool) (hI : s.Inv) (i : Nat) (si : ASlot) (hi : s.slots i = some si)
    (hm : si.moved = false) : si.toMdspan.Into s :=
  have ⟨_, hvalid, _, hspan, _⟩ := hI.1 i si hi
  ⟨i, si, hi, hm, rfl, hvalid, hspan hm⟩

/-- **aliasing**: writing through the view of mdarray `i` *is* writing through mdarray `i`
    (the same state results), hence each sees the other's writes -/
theorem C12_view_alias (s : APool) (i : Nat) (si : ASlot) (hi : s.slots i = some si)
    (is : List Nat) (x : Int) :
    s.step (.writeView si.toMdspan is x) = s.step (.writeArr i is x) := by
  simp only [APool.step, hi, MdView.set, ASlot.toMdspan]

/-- a write through a view into mdarray `i` changes no other mdarray -/
theorem C12_view_write_other (s : APool) (hI : s.Inv) (i k : Nat) (si : ASlot) (hi : s.slots i = some si)
    (v : MdView) (hv : v.base = si.cid) (is : List Nat) (x : Int) (hne : k ≠ i) :
    (s.step (.writeView v is x)).arr k = s.arr k :=
  APool.arr_congr rfl (hI.put_cid hi hv hne _)

/-- **frame**: a write through mdarray `i` changes no other mdarray of the pool -/
theorem C12_write_other (s : APool) (hI : s.Inv) (i k : Nat) (is : List Nat) (v : Int) (hne : k ≠ i) :
    (s.step (.writeArr i is v)).arr k = s.arr k := by
  cases hi : s.slots i with
  | none => simp only [APool.step, hi]
  | some si =>
    rw [← C12_view_alias s i si hi]
    exact C12_view_write_other s hI i k si hi _ rfl is v hne

/-- a write through the view is read back through the mdarray, a write through the mdarray is read
    back through the view, and either write leaves all other elements of the index space as
    they were, seen from both sides -/
theorem C12_view_alias_rw (s : APool) (hI : s.Inv) (i : Nat) (si : ASlot) (hi : s.slots i = some si)
    (hm : si.moved = false) (is : List Nat) (x : Int) (hb : InB is si.map.extents) (a : Mdarray)
    (ha : s.arr i = some a) :
    (s.step (.writeView si.toMdspan is x)).arr i = some (a.set is x) ∧
    (a.set is x).get is = x ∧
    si.toMdspan.get (s.step (.writeArr i is x)).heap is = x ∧
    (∀ js, InB js si.map.extents → js ≠ is →
      si.toMdspan.get (s.step (.writeArr i is x)).heap js = a.get js ∧
      si.toMdspan.get (s.step (.writeView si.toMdspan is x)).heap js = a.get js) := by
  obtain ⟨_, hvalid, _, hspan, _⟩ := hI.1 i si hi
  cases (APool.arr_of_slot hi).symm.trans ha
  have hfr := C12_write_frame ⟨si.map, s.heap si.cid, si.kind⟩ is x hvalid hb (hspan hm)
  have hw := (C12_step_write s i is x).trans (congrArg _ ha)
  have hsl : (s.step (.writeArr i is x)).slots i = some si := by simp [APool.step, hi]
  have hrd := (C12_toMdspan _ i si hsl).2.2 _ hw
  rw [C12_view_alias s i si hi]
  exact ⟨hw, hfr.1, (hrd is).trans hfr.1, fun js hj hne =>
    have := (hrd js).trans (hfr.2.1 js hj hne)
    ⟨this, this⟩⟩

/-- **no out-of-bounds access**: under the invariant and the precondition of an element write
    (through the mdarray or through a view into it) the addressed cell exists -/
theorem C12_access_safe (s : APool) (hI : s.Inv) :
    (∀ i is x, s.Pre (.writeArr i is x) → ∀ si, s.slots i = some si →
      si.map.offset is < (s.heap si.cid).length) ∧
    (∀ v is x, s.Pre (.writeView v is x) → v.map.offset is < (s.heap v.base).length) := by
  constructor
  · intro i is x ⟨si', hi', hm, hb⟩ si hi
    rw [hi'] at hi; cases hi
    obtain ⟨_, hvalid, _, hspan, _⟩ := hI.1 i si' hi'
    exact C12_access_inb ⟨si'.map, s.heap si'.cid, si'.kind⟩ is hvalid hb (hspan hm)
  · intro v is x ⟨⟨i, si, hi, hm, hbase, hv, hs⟩, hb⟩
    exact Nat.lt_of_lt_of_le (C01_range _ hv is hb) hs

/-- ... in every state reachable from the empty pool -/
theorem C12_run_access_safe (ops : List AOp) (i : Nat) (is : List Nat) (x : Int)
    (hp : APool.init.PreAll ops) (hw : (APool.init.run ops).Pre (.writeArr i is x)) (si : ASlot)
    (hi : (APool.init.run ops).slots i = some si) :
    si.map.offset is < ((APool.init.run ops).heap si.cid).length :=
  (C12_access_safe _ (C12_run ops _ C12_inv_init hp)).1 i is x hw si hi

/-! ## copies and moves -/

/-- copy construction and copy assignment `i ← j`: `i` holds `j`'s former value, `j` is
    unchanged, the two have different `data()`, the invariant still holds, and from then on a
    write to either is invisible in the other -/
theorem C12_copy_independent (s : APool) (hI : s.Inv) (i j : Nat) (hij : i ≠ j) (op : AOp)
    (hop : op = .copyCons i j ∨ op = .copyAssign i j) (hp : s.Pre op) :
    let s1 := s.step op
    s1.Inv ∧ s1.arr i = s.arr j ∧ s1.arr j = s.arr j ∧
    (∀ si sj, s1.slots i = some si → s1.slots j = some sj → si.cid ≠ sj.cid) ∧
    (∀ is v, ((s1.step (.writeArr i is v)).arr j = s.arr j) ∧
             ((s1.step (.writeArr j is v)).arr i = s.arr j)) := by
  intro s1
  have hI1 : s1.Inv := C12_step_inv s op hI hp
  have hji := hij.symm
  have hval : s1.arr i = s.arr j ∧ s1.arr j = s.arr j := by
    rcases hop with rfl | rfl
    · obtain ⟨_, sj, hj⟩ := hp
      simp only [s1, APool.step, hj]
      exact APool.arr_clone s hI i j sj hj hji
    · obtain ⟨si, sj, hi, hj, hk⟩ := hp
      simp only [s1, APool.step, hi, hj]
      split
      · exact APool.arr_clone s hI i j sj hj hji
      · exact APool.arr_overwrite s hI i j si sj hi hj hk hji
  exact ⟨hI1, hval.1, hval.2, fun si sj hi hj he => hij (hI1.2 i j si sj hi hj he), fun is v =>
    ⟨(C12_write_other s1 hI1 i j is v hji).trans hval.2,
     (C12_write_other s1 hI1 j i is v hij).trans hval.1⟩⟩

/-- move construction and move assignment `i ← j` of a `std::vector` container: `i` holds `j`'s
    former elements *in j's former buffer* (same `data()`, nothing copied, views of `j` taken
    before now view `i`), `j` keeps its mapping but owns an empty container -/
theorem C12_move_transfers (s : APool) (hI : s.Inv) (i j : Nat) (hij : i ≠ j) (op : AOp)
    (hop : op = .moveCons i j ∨ op = .moveAssign i j) (hp : s.Pre op)
    (sj : ASlot) (hj : s.slots j = some sj) (hk : sj.kind = .vector) :
    let s1 := s.step op
    s1.Inv ∧ s1.arr i = s.arr j ∧ s1.slots i = some sj ∧
    s1.arr j = some ⟨sj.map, [], .vector⟩ ∧
    (∀ a, s1.arr j = some a → a.size = prod sj.map.extents ∧ a.containerSize = 0) := by
  intro s1
  have hI1 : s1.Inv := C12_step_inv s op hI hp
  have hst : s1 = s.steal i j sj := by
    rcases hop with rfl | rfl
    · simp only [s1, APool.step, hj, hk]
    · obtain ⟨_, si, sj', hi, hj', hkk⟩ := hp
      cases hj.symm.trans hj'
      simp only [s1, APool.step, hi, hj, hkk.trans hk]
  have h1 := APool.arr_steal_target s hI i j sj hj
  have h2 := APool.arr_steal_source s i j sj hij
  rw [hk] at h2
  rw [hst] at hI1 ⊢
  exact ⟨hI1, h1.1, h1.2, h2, fun a ha => by cases h2.symm.trans ha; exact ⟨rfl, rfl⟩⟩

/-- move of a `std::array` container: element-wise, so the target holds the source's elements
    and the source keeps them -/
theorem C12_move_array (s : APool) (hI : s.Inv) (i j : Nat) (hij : i ≠ j) (op : AOp)
    (hop : op = .moveCons i j ∨ op = .moveAssign i j) (hp : s.Pre op)
    (sj : ASlot) (hj : s.slots j = some sj) (n : Nat) (hk : sj.kind = .array n) :
    let s1 := s.step op
    s1.Inv ∧ s1.arr i = s.arr j ∧ s1.arr j = s.arr j := by
  intro s1
  have hji := hij.symm
  refine ⟨C12_step_inv s op hI hp, ?_⟩
  rcases hop with rfl | rfl
  · simp only [s1, APool.step, hj, hk]
    exact hk ▸ APool.arr_clone s hI i j sj hj hji
  · obtain ⟨_, si, sj', hi, hj', hkk⟩ := hp
    cases hj.symm.trans hj'
    simp only [s1, APool.step, hi, hj, hkk.trans hk]
    exact APool.arr_overwrite s hI i j si sj hi hj hkk hji


/-! ## non-vacuity: a rank-2 layout_stride mdarray with strides (10, 3) -/
def c12L : Layout := .stride [2, 3] [10, 3]

theorem c12L_valid : c12L.Valid :=
  ⟨rfl, [(2, 10), (3, 3)], List.Perm.refl _, Or.inr (by decide), Or.inr (by decide), trivial⟩

example : c12L.Valid := c12L_valid
example : InB [1, 2] c12L.extents ∧ InB [0, 1] c12L.extents :=
  ⟨⟨by decide, by decide, trivial⟩, ⟨by decide, by decide, trivial⟩⟩
example : c12L.span = 17 ∧ prod c12L.extents = 6 ∧ c12L.offset [1, 2] = 16 := by decide +kernel
example : (Mdarray.ofMapping .vector c12L).containerSize = 17 ∧ (Mdarray.ofMapping .vector c12L).size = 6 := by decide +kernel
example : ((Mdarray.ofMapping .vector c12L).set [1, 2] 7).get [1, 2] = 7 ∧
    ((Mdarray.ofMapping .vector c12L).set [1, 2] 7).get [0, 1] = 0 := by decide +kernel

def c12Ops : List AOp :=
  [ .ofMapping 0 .vector c12L,
    .writeArr 0 [1, 2] 7,
    .copyCons 1 0,
    .writeArr 1 [1, 2] 9,
    .writeView ⟨0, c12L⟩ [0, 1] 5,
    .moveCons 2 0,
    .adopt 3 (.array 20) c12L (List.replicate 20 1),
    .ofMapping 4 (.array 20) c12L,
    .copyAssign 4 3,
    .writeArr 3 [0, 0] 2,
    .copyAssign 0 1 ]

example : APool.init.PreAll c12Ops := by
  have hb : ∀ {i j}, i < 2 → j < 3 → InB [i, j] c12L.extents := fun hi hj => ⟨hi, hj, trivial⟩
  simp only [c12Ops, APool.PreAll]
  refine ⟨⟨c12L_valid, nofun⟩, ⟨_, rfl, rfl, hb (by decide) (by decide)⟩, ⟨by decide, _, rfl⟩,
    ⟨_, rfl, rfl, hb (by decide) (by decide)⟩,
    ⟨⟨0, _, rfl, rfl, rfl, c12L_valid, by decide +kernel⟩, hb (by decide) (by decide)⟩,
    ⟨by decide, _, rfl⟩,
    ⟨c12L_valid, by decide +kernel, List.length_replicate⟩,
    ⟨c12L_valid, fun n h => by cases h; decide +kernel⟩,
    ⟨_, _, rfl, rfl, rfl⟩,
    ⟨_, rfl, rfl, hb (by decide) (by decide)⟩,
    ⟨_, _, rfl, rfl, rfl⟩, trivial⟩

/-- what the history leaves behind: slot 2 received slot 0's elements (including the write made
    through the view), slot 1 is an independent copy, slot 0 was empty after the move (with
    `size() = 6`) until it was assigned to, the `std::array` copy 4 does not see the later write
    to 3 -/
example :
    ((APool.init.run c12Ops).arr 2).map (fun a => (a.get [1, 2], a.get [0, 1])) = some (7, 5) ∧
    ((APool.init.run c12Ops).arr 1).map (·.get [1, 2]) = some 9 ∧
    ((APool.init.run (c12Ops.take 6)).arr 0).map (fun a => (a.containerSize, a.size)) = some (0, 6) ∧
    ((APool.init.run c12Ops).arr 0).map (fun a => (a.containerSize, a.get [1, 2])) = some (17, 9) ∧
    ((APool.init.run c12Ops).arr 3).map (·.get [0, 0]) = some 2 ∧
    ((APool.init.run c12Ops).arr 4).map (fun a => (a.containerSize, a.get [0, 0])) = some (20, 1) := by
  decide +kernel
end Mdspan
