import MdspanVerif.Props.C04
/-!
# C09 — the layout-preservation predicates follow the slicing rule, for every rank

The fold expressions test the *position* of a slice against `SubRank - 1` (left) resp.
`SrcRank - SubRank` (right), in truncated arithmetic.  Both are the same test on the number `b` of
non-index slices still to come (`keepLeft`), the right one read from the end of the list; with
`b` counted down from `subRank` the test is the prose rule by a plain induction (`keepLeft_subRank`).
-/
namespace Mdspan

theorem subRank_cons (sl : Slice) (sls : List Slice) :
    subRank (sl :: sls) = subRank sls + (if sl.isIdx then 0 else 1) := by
  unfold subRank
  rw [List.filter_cons]
  cases sl.isIdx <;> rfl

theorem subRank_le_length (sls : List Slice) : subRank sls ≤ sls.length := List.length_filter_le _ _

theorem subRank_reverse (sls : List Slice) : subRank sls.reverse = subRank sls := by
  unfold subRank; rw [List.filter_reverse, List.length_reverse]

theorem all_isIdx (sls : List Slice) : sls.all Slice.isIdx = (subRank sls == 0) := by
  induction sls with
  | nil => rfl
  | cons sl sls ih =>
    rw [List.all_cons, ih, subRank_cons]
    cases sl.isIdx <;> rfl

/-- what `preserve_layout_left_mapping` asks of a slice, by the number `b` of non-index slices
    still to come, this one included (`b = SubRank - position`, cut off at 0) -/
def keeps (b : Nat) (sl : Slice) : Bool := b == 0 || sl.isFull || (sl.isRange && b == 1)

def keepLeft : Nat → List Slice → Bool
  | _, [] => true
  | b, sl :: sls => keeps b sl && keepLeft (b - 1) sls

theorem keepLeft_zero (sls : List Slice) : keepLeft 0 sls = true := by
  induction sls with
  | nil => rfl
  | cons _ _ ih => exact ih

theorem decide_lt_eq_sub (a b : Nat) : decide (a < b) = (a + 1 - b == 0) := by
  rw [Bool.eq_iff_iff, beq_iff_eq, decide_eq_true_iff, Nat.sub_eq_zero_iff_le]; exact Iff.rfl

theorem beq_eq_sub (a b : Nat) : (a == b) = (a + 1 - b == 1) := by
  rw [Bool.eq_iff_iff, beq_iff_eq, beq_iff_eq]; omega

theorem preserveLeftAt_eq (k i : Nat) (sls : List Slice) :
    preserveLeftAt (k + 1) i sls = keepLeft (k + 1 - i) sls := by
  induction sls generalizing i with
  | nil => rfl
  | cons sl sls ih =>
    have hb : k + 1 - i - 1 = k + 1 - (i + 1) := Nat.sub_sub ..
    -- `i > k` is `k + 1 - i = 0` and `i = k` is `k + 1 - i = 1`; the rest is commutation
    rw [preserveLeftAt, ih (i + 1), keepLeft, keeps, hb, ← decide_lt_eq_sub k i, ← beq_eq_sub k i,
      BEq.comm (a := k), Bool.and_comm sl.isRange]
    rfl

theorem keepLeft_subRank (sls : List Slice) : keepLeft (subRank sls) sls = presLeftSpec sls := by
  induction sls with
  | nil => rfl
  | cons sl sls ih =>
    rw [subRank_cons]
    cases sl with
    | full => exact ih
    | strided o x s => rfl
    | range b e =>
      show (_ && keepLeft (subRank sls) sls) = sls.all Slice.isIdx
      rw [all_isIdx]
      rcases subRank sls with _ | k
      · exact keepLeft_zero sls
      · rfl -- a non-index slice is still to come: `keeps` fails for the pair, and the tail is not all-index
    | idx j =>
      show (_ && keepLeft (subRank sls - 1) sls) = sls.all Slice.isIdx
      rw [all_isIdx]
      rcases subRank sls with _ | k
      · exact keepLeft_zero sls
      · rfl

/-- **C09 (layout_left)**: `preserve_layout_left_mapping` is true exactly for
    `full* (full | pair)? index*`, for slice lists of every length. -/
theorem C09_preserveLeft (sls : List Slice) : preserveLeft sls = presLeftSpec sls := by
  rw [← keepLeft_subRank, preserveLeft]
  rcases subRank sls with _ | k
  · rw [keepLeft_zero]; rfl
  · rw [preserveLeftAt_eq k]; rfl

end Mdspan
