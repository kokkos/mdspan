import MdspanVerif.Props.C09b
import MdspanVerif.Props.C04b
/-!
# C04 — views of views to any depth

C04 with the layout-preservation rule filled in from C09 (`sub_alias`); then views as values (origin
and mapping) and chains of `submdspan`s.
-/
namespace Mdspan

theorem sub_alias (L : Layout) (hsl : L.strides.length = L.extents.length) (sls : List Slice)
    (js : List Nat) (hsv : SlicesValid sls L.extents) (hj : InB js (subExts sls L.extents)) :
    subOffsetOrig L sls + (subLayout L sls).offset js = L.offset (compose sls js) :=
  C04_alias L hsl sls js hsv hj (fun _ _ => C09_preserveLeft sls) (fun _ _ => C09_preserveRight sls)

/-- a view: absolute offset of its origin in the root buffer, and its mapping -/
structure View where
  off : Nat
  L : Layout

def View.addr (v : View) (js : List Nat) : Nat := v.off + v.L.offset js

/-- `submdspan(view, slices...)` for a non-empty result (offset = mapping(first_of...)) -/
def View.sub (v : View) (sls : List Slice) : View :=
  ⟨v.off + subOffsetOrig v.L sls, subLayout v.L sls⟩

theorem View.sub_addr (v : View) (hsl : v.L.strides.length = v.L.extents.length)
    (sls : List Slice) (js : List Nat) (hsv : SlicesValid sls v.L.extents)
    (hj : InB js (v.sub sls).L.extents) :
    (v.sub sls).addr js = v.addr (compose sls js) := by
  have hj : InB js (subExts sls v.L.extents) := subLayout_extents v.L sls ▸ hj
  show v.off + subOffsetOrig v.L sls + (subLayout v.L sls).offset js = v.off + v.L.offset (compose sls js)
  rw [Nat.add_assoc, sub_alias v.L hsl sls js hsv hj]

/-- the slices applied at each level, outermost first, all valid for the view they slice -/
def ChainValid : View → List (List Slice) → Prop
  | _, [] => True
  | v, sls :: rest => SlicesValid sls v.L.extents ∧ ChainValid (v.sub sls) rest

def View.subs : View → List (List Slice) → View
  | v, [] => v
  | v, sls :: rest => (v.sub sls).subs rest

/-- index of the root element designated by `js` in the innermost view -/
def composeAll : List (List Slice) → List Nat → List Nat
  | [], js => js
  | sls :: rest, js => compose sls (composeAll rest js)

/-- **C04, chains**: an element of a view of a view … of a view is the very same element of
    the root, at the composed index — for chains of any depth. -/
theorem View.subs_addr : ∀ (chain : List (List Slice)) (v : View),
    v.L.strides.length = v.L.extents.length → ChainValid v chain →
    ∀ js, InB js (v.subs chain).L.extents →
      (v.subs chain).addr js = v.addr (composeAll chain js) ∧ InB (composeAll chain js) v.L.extents := by
  intro chain v hsl hc js hj
  induction chain generalizing v with
  | nil => exact ⟨rfl, hj⟩
  | cons sls rest ih =>
    obtain ⟨h1, h2⟩ := ih (v.sub sls) (subLayout_strides_length v.L hsl sls) hc.2 hj
    exact ⟨h1.trans (View.sub_addr v hsl sls _ hc.1 h2),
      compose_inB sls v.L.extents _ hc.1 (subLayout_extents v.L sls ▸ h2)⟩

instance ChainValid.dec : (chain : List (List Slice)) → (v : View) → Decidable (ChainValid v chain)
  | [], _ => isTrue trivial
  | sls :: rest, v => @instDecidableAnd _ _ _ (ChainValid.dec rest (v.sub sls))

end Mdspan
