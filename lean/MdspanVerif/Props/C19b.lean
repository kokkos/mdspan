import MdspanVerif.Props.C19
import MdspanVerif.Props.C04c
/-!
# C19 — concurrent access through copies and sub-views of a shared view

A thread need not use the shared view itself: it may use a copy of it, or a `submdspan` of
it, or a `submdspan` of a `submdspan` … to any depth.  All of these are pure values computed
from the immutable state of the root view (C04c), and the element a thread touches through
such a chain is the *root* element at the composed index.  Hence: if the threads work on
disjoint index sets **of the root**, each through whatever chain of sub-views it likes, the
execution is race free and schedule independent.
-/
namespace Mdspan

/-- an element access through a chain of `submdspan`s of the shared view (outermost slice
    tuple first; the empty chain is the shared view itself or a copy of it) -/
structure AccV where
  tid : Nat
  isWrite : Bool
  chain : List (List Slice)
  idx : List Nat
  val : Int

/-- the root element the access designates -/
def AccV.rootIdx (a : AccV) : List Nat := composeAll a.chain a.idx

/-- the address is computed by the thread from its own (sub-)view: handle of the root plus
    accumulated sub-view offsets plus the sub-view's mapping at the index -/
def AccV.toEv (v : View) (a : AccV) : Ev :=
  ⟨a.tid, a.isWrite, (v.subs a.chain).addr a.idx, a.val⟩

/-- the same access expressed on the root view -/
def AccV.toAcc (a : AccV) : Acc := ⟨a.tid, a.isWrite, a.rootIdx, a.val⟩

def AccV.WF (v : View) (a : AccV) : Prop :=
  ChainValid v a.chain ∧ InB a.idx (v.subs a.chain).L.extents

/-- threads work on disjoint index sets of the root: a root element written by a thread —
    through any chain — is touched by that thread only -/
def DisjointRoot (s : List AccV) : Prop :=
  ∀ a1 ∈ s, ∀ a2 ∈ s, a1.isWrite = true → a1.rootIdx = a2.rootIdx → a1.tid = a2.tid

/-- copies are modelled as equal values (a `View` is a handle and a mapping, nothing else), so this
    is congruence; it records that modelling decision and says nothing of the C++ copy constructor -/
theorem View.copy_addr (v w : View) (h : w = v) (js : List Nat) : w.addr js = v.addr js := by
  rw [h]

theorem AccV.toEv_eq (v : View) (hsl : v.L.strides.length = v.L.extents.length) (a : AccV)
    (hw : a.WF v) : a.toEv v = a.toAcc.toEv v.off v.L ∧ InB a.toAcc.idx v.L.extents :=
  have ⟨h1, h2⟩ := View.subs_addr a.chain v hsl hw.1 a.idx hw.2
  ⟨congrArg (Ev.mk a.tid a.isWrite · a.val) h1, h2⟩

theorem AccV.map_toEv (v : View) (hsl : v.L.strides.length = v.L.extents.length) (s : List AccV)
    (hw : ∀ a ∈ s, a.WF v) :
    s.map (AccV.toEv v) = (s.map AccV.toAcc).map (Acc.toEv v.off v.L) := by
  rw [List.map_map]
  exact List.map_congr_left fun a ha => (AccV.toEv_eq v hsl a (hw a ha)).1

theorem AccV.toAcc_inB (v : View) (hsl : v.L.strides.length = v.L.extents.length) (s : List AccV)
    (hw : ∀ a ∈ s, a.WF v) : ∀ a ∈ s.map AccV.toAcc, InB a.idx v.L.extents := by
  intro a ha
  obtain ⟨b, hb, rfl⟩ := List.mem_map.mp ha
  exact (AccV.toEv_eq v hsl b (hw b hb)).2

theorem disjointIdx_of_disjointRoot (s : List AccV) (hd : DisjointRoot s) :
    DisjointIdx (s.map AccV.toAcc) := by
  intro a1 h1 a2 h2 hw hi
  obtain ⟨b1, hb1, rfl⟩ := List.mem_map.mp h1
  obtain ⟨b2, hb2, rfl⟩ := List.mem_map.mp h2
  exact hd b1 hb1 b2 hb2 hw hi

/-- two accesses through arbitrary (different) chains hit the same address exactly when they
    designate the same root element -/
theorem AccV.addr_eq_iff (v : View) (hv : v.L.Valid) (a1 a2 : AccV) (h1 : a1.WF v) (h2 : a2.WF v) :
    (a1.toEv v).addr = (a2.toEv v).addr ↔ a1.rootIdx = a2.rootIdx := by
  have hsl := strides_length v.L hv
  obtain ⟨e1, b1⟩ := AccV.toEv_eq v hsl a1 h1
  obtain ⟨e2, b2⟩ := AccV.toEv_eq v hsl a2 h2
  rw [e1, e2]
  exact ⟨fun h => C01_inj v.L hv _ _ b1 b2 (Nat.add_left_cancel h), fun h => congrArg (v.off + v.L.offset ·) h⟩

/-- **C19, sub-views: race freedom.**  Disjoint root index sets give race freedom, whatever
    chains of `submdspan`s (or copies) the threads access through. -/
theorem raceFree_of_disjointRoot (v : View) (hv : v.L.Valid) (s : List AccV)
    (hw : ∀ a ∈ s, a.WF v) (hd : DisjointRoot s) : RaceFree (s.map (AccV.toEv v)) := by
  have hsl := strides_length v.L hv
  rw [AccV.map_toEv v hsl s hw]
  exact raceFree_of_disjoint v.off v.L hv _ (AccV.toAcc_inB v hsl s hw) (disjointIdx_of_disjointRoot s hd)

/-- … and conversely: race freedom of the events *is* disjointness of the root index sets —
    sub-views introduce no aliasing beyond that of the root, and hide none. -/
theorem raceFree_iff_disjointRoot (v : View) (hv : v.L.Valid) (s : List AccV)
    (hw : ∀ a ∈ s, a.WF v) : RaceFree (s.map (AccV.toEv v)) ↔ DisjointRoot s := by
  constructor
  · intro hr a1 h1 a2 h2 hwr hi
    exact hr (a1.toEv v) (List.mem_map_of_mem h1) (a2.toEv v) (List.mem_map_of_mem h2) hwr
      ((AccV.addr_eq_iff v hv a1 a2 (hw a1 h1) (hw a2 h2)).mpr hi)
  · exact raceFree_of_disjointRoot v hv s hw

/-- **C19, sub-views: schedule independence.**  For any two schedules of the same per-thread
    access sequences, each access made through any chain of sub-views (or a copy) of one
    shared valid view, over disjoint index sets of the root: the final buffer contents
    coincide and every thread reads the same values. -/
theorem C19_sub_schedule_indep (v : View) (hv : v.L.Valid) (s1 s2 : List AccV) (m : Mem)
    (hw1 : ∀ a ∈ s1, a.WF v) (hw2 : ∀ a ∈ s2, a.WF v)
    (hd1 : DisjointRoot s1) (hd2 : DisjointRoot s2)
    (hp : ∀ t, prog t (s1.map (AccV.toEv v)) = prog t (s2.map (AccV.toEv v))) :
    runMem m (s1.map (AccV.toEv v)) = runMem m (s2.map (AccV.toEv v)) ∧
    ∀ t, readLog t m (s1.map (AccV.toEv v)) = readLog t m (s2.map (AccV.toEv v)) := by
  have r1 := raceFree_of_disjointRoot v hv s1 hw1 hd1
  have r2 := raceFree_of_disjointRoot v hv s2 hw2 hd2
  exact ⟨runMem_schedule_indep _ _ m r1 r2 hp, fun t => readLog_schedule_indep t _ _ m r1 r2 (hp t)⟩

/-- the same, derived literally from `C19_schedule_indep` on the root: an execution through
    sub-views is indistinguishable from the execution of the root accesses `toAcc` -/
theorem C19_sub_as_root (v : View) (hv : v.L.Valid) (s1 s2 : List AccV) (m : Mem)
    (hw1 : ∀ a ∈ s1, a.WF v) (hw2 : ∀ a ∈ s2, a.WF v)
    (hd1 : DisjointRoot s1) (hd2 : DisjointRoot s2)
    (hp : ∀ t, prog t (s1.map (AccV.toEv v)) = prog t (s2.map (AccV.toEv v))) :
    runMem m (s1.map (AccV.toEv v)) = runMem m ((s2.map AccV.toAcc).map (Acc.toEv v.off v.L)) ∧
    ∀ t, readLog t m (s1.map (AccV.toEv v)) =
      readLog t m ((s2.map AccV.toAcc).map (Acc.toEv v.off v.L)) := by
  have hsl := strides_length v.L hv
  have e1 := AccV.map_toEv v hsl s1 hw1
  have e2 := AccV.map_toEv v hsl s2 hw2
  rw [e1]
  rw [e1, e2] at hp
  exact C19_schedule_indep v.off v.L hv _ _ m (AccV.toAcc_inB v hsl s1 hw1) (AccV.toAcc_inB v hsl s2 hw2)
    (disjointIdx_of_disjointRoot s1 hd1) (disjointIdx_of_disjointRoot s2 hd2) hp

/-- a thread's partition given as a sub-view: if thread `t` only ever uses indices of its own
    sub-view chain `part t`, and the partitions designate disjoint parts of the root, the
    accesses are disjoint on the root -/
theorem disjointRoot_of_partition (s : List AccV) (part : Nat → List (List Slice))
    (hown : ∀ a ∈ s, a.chain = part a.tid)
    (hpart : ∀ t1 t2 js1 js2, t1 ≠ t2 → composeAll (part t1) js1 ≠ composeAll (part t2) js2) :
    DisjointRoot s := by
  intro a1 h1 a2 h2 _ hi
  apply Decidable.byContradiction
  intro hne
  apply hpart a1.tid a2.tid a1.idx a2.idx hne
  simpa [AccV.rootIdx, hown a1 h1, hown a2 h2] using hi

/-! ## non-vacuity: two threads, one on the even rows through a strided sub-view, one on row 1
    through a sub-view of a sub-view, of a 4×6 layout_right view at handle 100 -/

def c19bRoot : View := ⟨100, .right [4, 6]⟩
def c19bAccs : List AccV :=
  [ ⟨0, true, [[.strided 0 4 2, .full]], [1, 5], 7⟩,              -- root element (2,5)
    ⟨1, true, [[.range 1 3, .full], [.idx 0, .range 2 6]], [3], 9⟩, -- root element (1,5)
    ⟨1, false, [], [1, 5], 0⟩,                                      -- the shared view itself
    ⟨0, false, [[.strided 0 4 2, .full]], [1, 5], 0⟩ ]

example : c19bAccs.map AccV.rootIdx = [[2, 5], [1, 5], [1, 5], [2, 5]] := by decide +kernel
example : (c19bAccs.map (AccV.toEv c19bRoot)).map Ev.addr = [117, 111, 111, 117] := by decide +kernel

theorem c19bAccs_wf : ∀ a ∈ c19bAccs, a.WF c19bRoot := by
  unfold AccV.WF; decide +kernel

theorem c19bAccs_disjoint : DisjointRoot c19bAccs := by
  unfold DisjointRoot; decide +kernel

example : RaceFree (c19bAccs.map (AccV.toEv c19bRoot)) :=
  raceFree_of_disjointRoot c19bRoot trivial c19bAccs c19bAccs_wf c19bAccs_disjoint

/-- another interleaving of the same two per-thread programs: thread 1 first, then thread 0 -/
def c19bAccs2 : List AccV :=
  [ ⟨1, true, [[.range 1 3, .full], [.idx 0, .range 2 6]], [3], 9⟩,
    ⟨1, false, [], [1, 5], 0⟩,
    ⟨0, true, [[.strided 0 4 2, .full]], [1, 5], 7⟩,
    ⟨0, false, [[.strided 0 4 2, .full]], [1, 5], 0⟩ ]

example (m : Mem) :
    runMem m (c19bAccs.map (AccV.toEv c19bRoot)) = runMem m (c19bAccs2.map (AccV.toEv c19bRoot)) ∧
    ∀ t, readLog t m (c19bAccs.map (AccV.toEv c19bRoot)) =
      readLog t m (c19bAccs2.map (AccV.toEv c19bRoot)) :=
  C19_sub_schedule_indep c19bRoot trivial c19bAccs c19bAccs2 m c19bAccs_wf
    (by unfold AccV.WF; decide +kernel) c19bAccs_disjoint (by unfold DisjointRoot; decide +kernel)
    -- both schedules give thread 0 and thread 1 the same program, and no other thread occurs
    fun t => by
      rcases t with _ | _ | t
      · decide +kernel
      · decide +kernel
      · rfl

end Mdspan
