import MdspanVerif.Model.Convert
import MdspanVerif.Props.C02
/-!
# C08 — conversions preserve the mapping; mapping equality is sound

Both halves rest on one fact: a mapping is its extents and its `strides()` (`offset_eq_dot`).  A
converting constructor copies the extents and keeps the strides (`convert_spec`); `==` returns true
exactly on comparable mappings with equal extents and equal strides (`eqMap_iff`).
-/
namespace Mdspan

/-! ## `stride(r)` agrees with `strides()` for every mapping -/

theorem mulLoop_eq (v : Nat) (l : List Nat) : mulLoop v l = v * prod l := by
  unfold mulLoop
  induction l generalizing v with
  | nil => simp [prod]
  | cons x xs ih => simp only [List.foldl_cons, ih, prod, Nat.mul_assoc]

theorem lpadStride_eq_lpadStrideP (ps : Nat) (es : List Nat) (r : Nat) :
    lpadStride ps es r = lpadStrideP ps es r := by
  rw [lpadStride, lpadStrideP, mulLoop_eq]

theorem rpadStride_eq_rpadStrideP (ps : Nat) (es : List Nat) (r : Nat) :
    rpadStride ps es r = rpadStrideP ps es r := by
  rw [rpadStride, rpadStrideP, mulLoop_eq, prod_reverse]

-- `rfl` at every rank: the `lpad` arms of `convert_spec` and `convPre_back` use it unnamed where the `rpad` arms cite
-- `rpadStride_idx`
theorem lpadStride_idx (ps : Nat) (es : List Nat) : lpadStride ps es lpadIdx = ps := rfl

theorem rpadStride_idx (ps : Nat) (es : List Nat) (h : es.length > 1) :
    rpadStride ps es (rpadIdx es.length) = ps := by
  rw [rpadStride, rpadIdx, if_neg (by omega), mulLoop_eq,
    List.drop_eq_nil_of_le (by rw [List.length_dropLast]; omega)]
  exact Nat.mul_one ps

theorem strides_get (L : Layout) (hwf : L.WF) (r : Nat) (h : r < L.rank) :
    L.strides[r]? = some (L.strideAt r) := by
  cases L with
  | left es => exact leftStrides_get es r h
  | right es => exact rightStrides_get es r h
  | stride es ss =>
    have hr : r < ss.length := by rw [hwf]; exact h
    simp [Layout.strides, Layout.strideAt, List.getD_eq_getElem?_getD, List.getElem?_eq_getElem hr]
  | lpad es ps => exact (lpadStride_eq ps es r h).trans (congrArg some (lpadStride_eq_lpadStrideP ps es r).symm)
  | rpad es ps => exact (rpadStride_eq ps es r h).trans (congrArg some (rpadStride_eq_rpadStrideP ps es r).symm)

theorem strideList_length (L : Layout) : L.strideList.length = L.rank := by
  simp [Layout.strideList]

theorem strides_length_wf (L : Layout) (hwf : L.WF) : L.strides.length = L.rank :=
  strides_length_of fun es ss e => by subst e; exact hwf

theorem strideList_eq (L : Layout) (hwf : L.WF) : L.strideList = L.strides := by
  refine List.ext_getElem ((strideList_length L).trans (strides_length_wf L hwf).symm) fun r h h' => ?_
  rw [(List.getElem_eq_iff h').mpr (strides_get L hwf r (strideList_length L ▸ h))]
  simp [Layout.strideList]

/-! ## when two of the stride lists coincide

For rank ≤ 1 all four of `leftStrides`, `rightStrides`, `lpadStrides ps`, `rpadStrides ps` are
`[]` or `[1]`.  For rank > 1 the padded lists determine their padded stride, and the unpadded ones
are the padded ones whose padded stride is the extent it pads. -/

theorem leftStrides_eq_rightStrides (es : List Nat) (h : es.length ≤ 1) : leftStrides es = rightStrides es := by
  rcases es with _ | ⟨_, _ | _⟩
  · rfl
  · rfl
  · cases Nat.le_of_succ_le_succ h

theorem lpadStrides_eq_rpadStrides (ps qs : Nat) (es : List Nat) (h : es.length ≤ 1) :
    lpadStrides ps es = rpadStrides qs es := by
  rcases es with _ | ⟨_, _ | _⟩
  · rfl
  · rfl
  · cases Nat.le_of_succ_le_succ h

theorem lpadStrides_getD (ps : Nat) (es : List Nat) (h : 1 < es.length) :
    (lpadStrides ps es).getD lpadIdx 0 = ps := by
  rcases es with _ | ⟨_, _ | _⟩
  · cases h
  · exact absurd h (Nat.lt_irrefl 1)
  · rfl

theorem rpadStrides_getD (ps : Nat) (es : List Nat) (h : 1 < es.length) :
    (rpadStrides ps es).getD (rpadIdx es.length) 0 = ps := by
  rw [List.getD_eq_getElem?_getD,
    rpadStride_eq ps es (rpadIdx es.length) (Nat.sub_lt (Nat.lt_of_succ_lt h) Nat.two_pos),
    ← rpadStride_eq_rpadStrideP, rpadStride_idx ps es h]
  rfl

theorem lpadStrides_eq_iff (ps qs : Nat) (es : List Nat) :
    lpadStrides ps es = lpadStrides qs es ↔ (1 < es.length → ps = qs) := by
  refine ⟨fun h hr => by rw [← lpadStrides_getD ps es hr, h, lpadStrides_getD qs es hr], fun h => ?_⟩
  rcases es with _ | ⟨_, _ | _⟩
  · rfl
  · rfl
  · rw [h (Nat.succ_lt_succ (Nat.succ_pos _))]

theorem rpadStrides_eq_iff (ps qs : Nat) (es : List Nat) :
    rpadStrides ps es = rpadStrides qs es ↔ (1 < es.length → ps = qs) := by
  refine ⟨fun h hr => by rw [← rpadStrides_getD ps es hr, h, rpadStrides_getD qs es hr], fun h => ?_⟩
  rcases es with _ | ⟨_, _ | _⟩
  · rfl
  · rfl
  · rw [h (Nat.succ_lt_succ (Nat.succ_pos _))]

theorem lpadStrides_self (es : List Nat) : lpadStrides (es.getD 0 0) es = leftStrides es := by
  rw [lpadStrides_eq]
  rcases es with _ | ⟨e, es⟩ <;> rfl

theorem rpadStrides_self (es : List Nat) : rpadStrides (es.getD (es.length - 1) 0) es = rightStrides es := by
  rcases es with _ | ⟨e, _ | ⟨e', es⟩⟩
  · rfl
  · rfl
  · exact congrArg rightStrides (replaceLast_self (e :: e' :: es))

theorem lpadStrides_eq_left_iff (ps : Nat) (es : List Nat) :
    lpadStrides ps es = leftStrides es ↔ (1 < es.length → ps = es.getD 0 0) := by
  rw [← lpadStrides_self, lpadStrides_eq_iff]

theorem rpadStrides_eq_right_iff (ps : Nat) (es : List Nat) :
    rpadStrides ps es = rightStrides es ↔ (1 < es.length → ps = es.getD (es.length - 1) 0) := by
  rw [← rpadStrides_self, rpadStrides_eq_iff]

theorem initPad_gt (n s : Nat) (h : n > 1) : initPad n s = s := by simp [initPad, h]

theorem lpadStrides_initPad (s : Nat) (es : List Nat) :
    lpadStrides (initPad es.length s) es = lpadStrides s es :=
  (lpadStrides_eq_iff _ _ es).mpr (initPad_gt _ s)

theorem rpadStrides_initPad (s : Nat) (es : List Nat) :
    rpadStrides (initPad es.length s) es = rpadStrides s es :=
  (rpadStrides_eq_iff _ _ es).mpr (initPad_gt _ s)

theorem leftStride_idx (es : List Nat) (h : es.length > 1) : leftStride es lpadIdx = es.getD 0 0 := by
  rcases es with _ | ⟨e, _ | _⟩
  · cases h
  · exact absurd h (Nat.lt_irrefl 1)
  · exact Nat.mul_one e

theorem rightStride_idx (es : List Nat) (h : es.length > 1) :
    rightStride es (rpadIdx es.length) = es.getD (es.length - 1) 0 := by
  -- the last extent has no cons form: read it off `rpadStrides_self`
  have h1 := rightStride_eq es (rpadIdx es.length) (Nat.sub_lt (Nat.lt_of_succ_lt h) Nat.two_pos)
  have h2 := rpadStrides_getD (es.getD (es.length - 1) 0) es h
  rwa [rpadStrides_self, List.getD_eq_getElem?_getD, h1] at h2

/-! ## the conversions keep extents and strides -/

theorem ite_some_eq {α : Type} {p : Prop} [Decidable p] {a b : α} :
    (if p then some a else none) = some b ↔ p ∧ a = b := by
  rw [Option.ite_none_right_eq_some, Option.some.injEq]

theorem convert_stride (src : Layout) : convert src .stride = some (.stride src.extents src.strideList) := by
  cases src <;> rfl

/-- the core of C08, one case per converting constructor -/
theorem convert_spec (src : Layout) (dst : LKind) (d : Layout) (h : convert src dst = some d) :
    d.extents = src.extents ∧ d.kind = dst ∧ d.WF ∧ (ConvPre src dst → src.WF → d.strides = src.strides) := by
  cases dst with
  | left =>
    cases src with
    | left es => cases h; exact ⟨rfl, rfl, trivial, fun _ _ => rfl⟩
    | right es =>
      obtain ⟨hle, rfl⟩ := ite_some_eq.mp h
      exact ⟨rfl, rfl, trivial, fun _ _ => leftStrides_eq_rightStrides es hle⟩
    | stride es ss => cases h; exact ⟨rfl, rfl, trivial, fun hp _ => hp.symm⟩
    | lpad es ps => cases h; exact ⟨rfl, rfl, trivial, fun hp _ => ((lpadStrides_eq_left_iff ps es).mpr hp).symm⟩
    | rpad es ps => cases h
  | right =>
    cases src with
    | right es => cases h; exact ⟨rfl, rfl, trivial, fun _ _ => rfl⟩
    | left es =>
      obtain ⟨hle, rfl⟩ := ite_some_eq.mp h
      exact ⟨rfl, rfl, trivial, fun _ _ => (leftStrides_eq_rightStrides es hle).symm⟩
    | stride es ss => cases h; exact ⟨rfl, rfl, trivial, fun hp _ => hp.symm⟩
    | rpad es ps =>
      cases h
      exact ⟨rfl, rfl, trivial, fun hp _ =>
        ((rpadStrides_eq_right_iff ps es).mpr fun hr => (rpadStride_idx ps es hr).symm.trans (hp hr)).symm⟩
    | lpad es ps => cases h
  | stride =>
    obtain rfl := Option.some.inj ((convert_stride src).symm.trans h)
    exact ⟨rfl, rfl, strideList_length src, fun _ hwf => strideList_eq src hwf⟩
  | lpad =>
    cases src with
    | left es =>
      cases h
      exact ⟨rfl, rfl, trivial, fun _ _ => (lpadStrides_initPad _ es).trans <|
        (lpadStrides_eq_left_iff _ es).mpr (leftStride_idx es)⟩
    | stride es ss => cases h; exact ⟨rfl, rfl, trivial, fun hp _ => (lpadStrides_initPad _ es).trans hp.symm⟩
    | lpad es ps => cases h; exact ⟨rfl, rfl, trivial, fun _ _ => lpadStrides_initPad _ es⟩
    | rpad es ps =>
      obtain ⟨hle, rfl⟩ := ite_some_eq.mp h
      exact ⟨rfl, rfl, trivial, fun _ _ => lpadStrides_eq_rpadStrides _ ps es hle⟩
    | right es => cases h
  | rpad =>
    cases src with
    | right es =>
      cases h
      exact ⟨rfl, rfl, trivial, fun _ _ => (rpadStrides_initPad _ es).trans <|
        (rpadStrides_eq_right_iff _ es).mpr (rightStride_idx es)⟩
    | stride es ss => cases h; exact ⟨rfl, rfl, trivial, fun hp _ => (rpadStrides_initPad _ es).trans hp.symm⟩
    | rpad es ps =>
      cases h
      exact ⟨rfl, rfl, trivial, fun _ _ => (rpadStrides_eq_iff _ ps es).mpr fun hr =>
        (initPad_gt _ _ hr).trans (rpadStride_idx ps es hr)⟩
    | lpad es ps =>
      obtain ⟨hle, rfl⟩ := ite_some_eq.mp h
      exact ⟨rfl, rfl, trivial, fun _ _ => (lpadStrides_eq_rpadStrides ps _ es hle).symm⟩
    | left es => cases h

/-- **C08 (conversion, extents).** Every converting constructor copies the extents. -/
theorem C08_conv_extents (src : Layout) (dst : LKind) (d : Layout) (h : convert src dst = some d) :
    d.extents = src.extents := (convert_spec src dst d h).1

/-- the conversion also preserves `strides()`, hence every `stride(r)` (and yields a well-formed
    mapping of type `dst`).  `required_span_size()` may shrink: left_padded over `(5,2,3)` with
    padded stride 8 needs 48, its `layout_stride` image 45. -/
theorem C08_conv_strides (src : Layout) (dst : LKind) (d : Layout) (h : convert src dst = some d)
    (hp : ConvPre src dst) (hwf : src.WF) : d.strides = src.strides ∧ d.WF ∧ d.kind = dst :=
  have ⟨_, hk, hw, hs⟩ := convert_spec src dst d h
  ⟨hs hp hwf, hw, hk⟩

theorem offset_congr (a b : Layout) (he : a.extents = b.extents) (hs : a.strides = b.strides)
    (is : List Nat) (hl : is.length = a.extents.length) : a.offset is = b.offset is := by
  rw [offset_eq_dot a is hl, offset_eq_dot b is (he ▸ hl), hs]

/-- **C08 (conversion, offsets).** Under the constructor's precondition the converted mapping sends
    every multi-index of the right length (inside the extents or not) to the same offset. -/
theorem C08_conv_offset (src : Layout) (dst : LKind) (d : Layout) (h : convert src dst = some d)
    (hp : ConvPre src dst) (hwf : src.WF) (is : List Nat) (hl : is.length = src.extents.length) :
    d.offset is = src.offset is :=
  have ⟨he, _, _, hs⟩ := convert_spec src dst d h
  offset_congr d src he (hs hp hwf) is (he ▸ hl)

/-! ## equality -/

theorem extEq_iff (es fs : List Nat) : extEq es fs = true ↔ es = fs := by
  induction es generalizing fs with
  | nil => cases fs with
    | nil => exact iff_of_true rfl rfl
    | cons => exact ⟨nofun, nofun⟩
  | cons e es ih => cases fs with
    | nil => exact ⟨nofun, nofun⟩
    | cons f fs =>
      rw [extEq, List.cons.injEq]
      by_cases hef : f = e
      · rw [if_neg (not_not_intro hef), ih]; exact (and_iff_right hef.symm).symm
      · rw [if_pos hef]; exact iff_of_false nofun fun h => hef h.1.symm

/-- `f`: `leftStrides` or `rightStrides` -/
theorem extEq_iff_strides (f : List Nat → List Nat) (es fs : List Nat) :
    extEq es fs = true ↔ es = fs ∧ f es = f fs :=
  (extEq_iff es fs).trans ⟨fun h => ⟨h, congrArg f h⟩, And.left⟩

theorem extEq_eq_decide (es fs : List Nat) : extEq es fs = decide (es = fs) :=
  Bool.eq_iff_iff.mpr ((extEq_iff es fs).trans decide_eq_true_iff.symm)

theorem allEq_iff (as bs : List Nat) (h : as.length = bs.length) : allEq as bs = true ↔ as = bs := by
  induction as, bs, h using List.induction₂ with
  | nil => exact iff_of_true rfl rfl
  | cons a as b bs _ ih => rw [allEq, Bool.and_eq_true, beq_iff_eq, ih, List.cons.injEq]

theorem allEq_refl (as : List Nat) : allEq as as = true := (allEq_iff as as rfl).mpr rfl

theorem anyNe_eq (as bs : List Nat) : anyNe as bs = !allEq as bs := by
  fun_induction anyNe as bs with
  | case1 a as b bs ih => rw [allEq, ih, Bool.not_and]; rfl
  | case2 as bs h =>
    rw [allEq]
    · rfl
    · exact h

theorem dot_zeros (n : Nat) (ss : List Nat) : dot (List.replicate n 0) ss = 0 := by
  induction n generalizing ss with
  | zero => rfl
  | succ n ih => cases ss with
    | nil => rfl
    | cons s ss => rw [List.replicate, dot, ih, Nat.zero_mul]

/-- `__OFFSET(y) == 0` holds for all five mappings: the conjunct never decides -/
theorem offsetOrigin_zero (y : Layout) : y.offsetOrigin = 0 := by
  unfold Layout.offsetOrigin
  rw [offset_eq_dot y _ (by simp [Layout.rank])]
  exact dot_zeros _ _

theorem eqStrideOther_iff (es ss : List Nat) (y : Layout) (hw : ss.length = es.length) (hy : y.WF) :
    eqStrideOther es ss y = true ↔ es = y.extents ∧ ss = y.strides := by
  simp only [eqStrideOther, stridesMatch, offsetOrigin_zero, beq_self_eq_true, Bool.and_true,
    Bool.and_eq_true, extEq_iff, strideList_eq y hy]
  exact and_congr_right fun he => allEq_iff _ _ (by rw [hw, he, strides_length_wf y hy]; rfl)

theorem eqStrideStride_iff (es ss fs ts : List Nat) (hs : ss.length = ts.length) (hr : es.length = fs.length) :
    eqStrideStride es ss fs ts = true ↔ es = fs ∧ ss = ts := by
  rw [eqStrideStride, Bool.and_eq_true, allEq_iff _ _ hs, allEq_iff _ _ hr, and_comm]

/-- on two `layout_stride` mappings the generic `operator==(stride, StridedLayoutMapping)` agrees
    with the more specialised `_eq_impl` overload -/
theorem eqStrideOther_stride (es ss fs ts : List Nat) (hs : ss.length = es.length)
    (ht : ts.length = fs.length) (hr : es.length = fs.length) :
    eqStrideOther es ss (.stride fs ts) = eqStrideStride es ss fs ts :=
  Bool.eq_iff_iff.mpr <| (eqStrideOther_iff es ss (.stride fs ts) hs ht).trans
    (eqStrideStride_iff es ss fs ts (hs.trans (hr.trans ht.symm)) hr).symm

theorem eqLpad_iff (es : List Nat) (ps : Nat) (fs : List Nat) (qs : Nat) :
    eqLpad es ps fs qs = true ↔ es = fs ∧ lpadStrides ps es = lpadStrides qs fs := by
  simp only [eqLpad, Bool.and_eq_true, extEq_iff]
  refine and_congr_right fun he => ?_
  subst he
  rw [lpadStrides_eq_iff, lpadStride_idx, lpadStride_idx]
  by_cases hr : 1 < es.length <;> simp [hr]

theorem eqRpad_iff (es : List Nat) (ps : Nat) (fs : List Nat) (qs : Nat) :
    eqRpad es ps fs qs = true ↔ es = fs ∧ rpadStrides ps es = rpadStrides qs fs := by
  simp only [eqRpad, Bool.and_eq_true, extEq_iff]
  refine and_congr_right fun he => ?_
  subst he
  rw [rpadStrides_eq_iff]
  by_cases hr : 1 < es.length <;> simp [hr, rpadStride_idx]

/-- one arm of `eqMap`: the rank test `c` adds nothing to equal extents `E`; `v` the operator's
    value, `K` comparable kinds, `S` equal strides -/
theorem eqMap_arm {c K E S : Prop} [Decidable c] {v : Bool} (hv : c → (v = true ↔ E ∧ S)) (hc : E → c) (hK : K) :
    (if c then some v else none) = some true ↔ K ∧ E ∧ S := by
  rw [ite_some_eq]
  exact ⟨fun h => ⟨hK, (hv h.1).mp h.2⟩, fun h => ⟨hc h.2.1, (hv (hc h.2.1)).mpr h.2⟩⟩

/-- an arm without `operator==`: `K` fails -/
theorem eqMap_no (k l : LKind) {E S : Prop} (h : decide (k = l ∨ k = .stride ∨ l = .stride) = false) :
    (none : Option Bool) = some true ↔ (k = l ∨ k = .stride ∨ l = .stride) ∧ E ∧ S :=
  ⟨nofun, fun h' => absurd h'.1 (of_decide_eq_false h)⟩

/-- **`==` decides "same extents and same strides"** on the pairs of mapping types it is declared
    for (same template, or one of them `layout_stride`) -/
theorem eqMap_iff (a b : Layout) (ha : a.WF) (hb : b.WF) :
    eqMap a b = some true ↔
      (a.kind = b.kind ∨ a.kind = .stride ∨ b.kind = .stride) ∧ a.extents = b.extents ∧ a.strides = b.strides := by
  cases a <;> cases b
  case left.left es fs =>
    exact eqMap_arm (fun _ => extEq_iff_strides leftStrides es fs) (congrArg List.length) (.inl rfl)
  case right.right es fs =>
    exact eqMap_arm (fun _ => extEq_iff_strides rightStrides es fs) (congrArg List.length) (.inl rfl)
  case stride.stride es ss fs ts =>
    exact eqMap_arm (fun hr => eqStrideStride_iff es ss fs ts (ha.trans (hr.trans hb.symm)) hr) (congrArg _) (.inl rfl)
  case lpad.lpad es ps fs qs => exact eqMap_arm (fun _ => eqLpad_iff es ps fs qs) (congrArg _) (.inl rfl)
  case rpad.rpad es ps fs qs => exact eqMap_arm (fun _ => eqRpad_iff es ps fs qs) (congrArg _) (.inl rfl)
  case stride.left es ss _ | stride.right es ss _ | stride.lpad es ss _ _ | stride.rpad es ss _ _ =>
    exact eqMap_arm (fun _ => eqStrideOther_iff es ss _ ha hb) (congrArg _) (.inr (.inl rfl))
  -- the reversed candidate `y == x` of `x == y`
  case left.stride _ fs ts | right.stride _ fs ts | lpad.stride _ _ fs ts | rpad.stride _ _ fs ts =>
    exact eqMap_arm (fun _ => (eqStrideOther_iff fs ts _ hb ha).trans (and_congr eq_comm eq_comm))
      (fun h => (congrArg _ h).symm) (.inr (.inr rfl))
  -- no `==` is declared between the other twelve pairs of types
  all_goals exact eqMap_no _ _ rfl

/-- **C08 (equality is sound).** `a == b` implies equal extents and identical offsets for all
    multi-indices of the right length. -/
theorem C08_eq_sound (a b : Layout) (ha : a.WF) (hb : b.WF) (h : eqMap a b = some true) :
    a.extents = b.extents ∧ ∀ is : List Nat, is.length = a.extents.length → a.offset is = b.offset is :=
  have ⟨_, he, hs⟩ := (eqMap_iff a b ha hb).mp h
  ⟨he, offset_congr a b he hs⟩

/-- **C08 (a mapping equals its copy).** -/
theorem C08_eq_refl (a : Layout) : eqMap a a = some true := by
  cases a with
  | stride es ss =>
    -- not through `eqMap_iff`: no `WF` is assumed, and `allEq` compares position by position, so
    -- the number of strides does not matter
    exact (if_pos rfl).trans (congrArg some (by rw [eqStrideStride, allEq_refl, allEq_refl]; rfl))
  | _ => exact (eqMap_iff _ _ (by trivial) (by trivial)).mpr ⟨.inl rfl, rfl, rfl⟩

theorem convPre_back (a b : Layout) (he : b.extents = a.extents) (hs : b.strides = a.strides) :
    ConvPre b a.kind := by
  cases a <;> cases b <;> try trivial
  all_goals cases he
  case left.stride => exact hs
  case right.stride => exact hs
  case left.lpad fs ps => exact (lpadStrides_eq_left_iff ps fs).mp hs
  case right.rpad fs ps =>
    exact fun hr => (rpadStride_idx ps fs hr).trans ((rpadStrides_eq_right_iff ps fs).mp hs hr)
  case lpad.stride fs ps ts =>
    cases (hs : ts = lpadStrides ps fs)
    exact (lpadStrides_eq_iff _ _ fs).mpr fun hr => (lpadStrides_getD ps fs hr).symm
  case rpad.stride fs ps ts =>
    cases (hs : ts = rpadStrides ps fs)
    exact (rpadStrides_eq_iff _ _ fs).mpr fun hr => (rpadStrides_getD ps fs hr).symm

/-- **C08 (round trip).** Converting `a` to any mapping type `k` the library allows (under that
    constructor's precondition) and back to `a`'s own type: the way back is within its
    precondition, and the result compares equal to `a`. -/
theorem C08_roundtrip (a : Layout) (k : LKind) (b c : Layout) (h1 : convert a k = some b)
    (h2 : convert b a.kind = some c) (hp : ConvPre a k) (ha : a.WF) :
    ConvPre b a.kind ∧ eqMap a c = some true := by
  obtain ⟨he, _, hwb, hs⟩ := convert_spec a k b h1
  have hp2 := convPre_back a b he (hs hp ha)
  obtain ⟨he2, hk2, hwc, hs2⟩ := convert_spec b a.kind c h2
  exact ⟨hp2, (eqMap_iff a c ha hwc).mpr ⟨.inl hk2.symm, (he2.trans he).symm, ((hs2 hp2 hwb).trans (hs hp ha)).symm⟩⟩

theorem ne_arm (c : Prop) [Decidable c] (v : Bool) :
    (if c then some (!v) else none) = (if c then some v else none).map (!·) := by
  split <;> rfl

theorem neStrideStride_eq (es ss fs ts : List Nat) :
    neStrideStride es ss fs ts = !eqStrideStride es ss fs ts := by
  rw [neStrideStride, eqStrideStride, anyNe_eq, anyNe_eq, Bool.not_and]

/-- **C08 (`!=` is the negation of `==`)**, for every hand-written `operator!=` / `_not_eq_impl`. -/
theorem C08_ne_not_eq (a b : Layout) : neMap a b = (eqMap a b).map (!·) := by
  cases a <;> cases b <;> try exact ne_arm _ _   -- the operators written as `!(x == y)`
  case stride.stride es ss fs ts =>   -- `_not_eq_impl`
    exact (congrArg (if es.length = fs.length then some · else none) (neStrideStride_eq es ss fs ts)).trans (ne_arm _ _)
  all_goals rfl   -- neither operator is declared

/-- **C08 (layout_left equality is extents equality).** -/
theorem C08_left_eq_iff (es fs : List Nat) : eqMap (.left es) (.left fs) = some true ↔ es = fs :=
  (eqMap_iff (.left es) (.left fs) trivial trivial).trans ⟨fun h => h.2.1, fun h => ⟨.inl rfl, h, h ▸ rfl⟩⟩
theorem C08_left_eq_decide (es fs : List Nat) (h : es.length = fs.length) :
    eqMap (.left es) (.left fs) = some (decide (es = fs)) :=
  (if_pos h).trans (congrArg some (extEq_eq_decide es fs))

/-- **C08 (layout_right equality is extents equality).** -/
theorem C08_right_eq_iff (es fs : List Nat) : eqMap (.right es) (.right fs) = some true ↔ es = fs :=
  (eqMap_iff (.right es) (.right fs) trivial trivial).trans ⟨fun h => h.2.1, fun h => ⟨.inl rfl, h, h ▸ rfl⟩⟩
theorem C08_right_eq_decide (es fs : List Nat) (h : es.length = fs.length) :
    eqMap (.right es) (.right fs) = some (decide (es = fs)) :=
  (if_pos h).trans (congrArg some (extEq_eq_decide es fs))

/-! ## non-vacuity on concrete rank-3 mappings -/

example : convert (.lpad [5, 2, 3] 8) .stride = some (.stride [5, 2, 3] [1, 8, 16]) := by decide +kernel
example : convert (.stride [5, 2, 3] [1, 8, 16]) .lpad = some (.lpad [5, 2, 3] 8) := by decide +kernel
example : ConvPre (.stride [5, 2, 3] [1, 8, 16]) .lpad := by decide +kernel
example : convert (.rpad [2, 3, 5] 8) .stride = some (.stride [2, 3, 5] [24, 8, 1]) := by decide +kernel
example : convert (.stride [2, 3, 5] [24, 8, 1]) .rpad = some (.rpad [2, 3, 5] 8) ∧
    ConvPre (.stride [2, 3, 5] [24, 8, 1]) .rpad := by decide +kernel
example : convert (.right [2, 3, 4]) .rpad = some (.rpad [2, 3, 4] 4) := by decide +kernel
-- `stride == left_padded` looks at the strides; `left_padded == left_padded` at the padded stride
example : eqMap (.stride [5, 2, 3] [1, 8, 16]) (.lpad [5, 2, 3] 8) = some true ∧
    eqMap (.stride [5, 2, 3] [1, 8, 16]) (.lpad [5, 2, 3] 5) = some false ∧
    eqMap (.lpad [5, 2, 3] 8) (.lpad [5, 2, 3] 5) = some false ∧
    neMap (.lpad [5, 2, 3] 8) (.lpad [5, 2, 3] 5) = some true ∧
    eqMap (.left [5, 2, 3]) (.lpad [5, 2, 3] 5) = none := by decide +kernel
-- rank ≤ 1: the padded stride is not looked at; rank restrictions of left ↔ right
example : eqMap (.lpad [7] 0) (.lpad [7] 9) = some true ∧
    convert (.left [2, 3, 4]) .right = none ∧ convert (.left [7]) .right = some (.right [7]) ∧
    convert (.rpad [7] 9) .lpad = some (.lpad [7] 0) := by decide +kernel
-- the preconditions are needed: non-canonical strides / a real padding change the mapping
example : ¬ ConvPre (.stride [2, 3, 4] [1, 2, 7]) .left ∧
    (Layout.stride [2, 3, 4] [1, 2, 7]).offset [0, 0, 1] = 7 ∧
    (Layout.left [2, 3, 4]).offset [0, 0, 1] = 6 := by decide +kernel
example : ¬ ConvPre (.lpad [5, 2, 3] 8) .left ∧
    (Layout.lpad [5, 2, 3] 8).offset [0, 1, 0] = 8 ∧ (Layout.left [5, 2, 3]).offset [0, 1, 0] = 5 := by
  decide +kernel
-- round trip left → left_padded → left and left_padded → stride → left_padded on rank 3
example : (convert (.left [5, 2, 3]) .lpad).bind (convert · .left) = some (.left [5, 2, 3]) := by decide +kernel
example : (convert (.lpad [5, 2, 3] 8) .stride).bind (convert · .lpad) = some (.lpad [5, 2, 3] 8) := by
  decide +kernel

end Mdspan
