import MdspanVerif.Props.C14i
import MdspanVerif.Props.C10b
/-!
# C14 — views of views to any depth at the machine level

(1) `subLayout_admB`: the mapping of a sub-view of an admissible view is admissible again; the case
`Lemmas/SubAdm.lean` leaves, a strided result of a `layout_left` / `layout_right` source, under `Layout.NonDeg`.

(2) The machine-level iteration `subChainM` over a list of slice tuples against the pure-layer view
`View.subsR` (`C14_sub_chain`).  On chains of non-empty views `View.subsR` / `ChainOK` are `View.subs` / `ChainValid` of C04.
-/
namespace Mdspan

/-! ### (1) the result mapping is admissible again -/

/-- non-degenerate: a layout_stride mapping, or a layout_left / layout_right mapping over a
    non-empty index space (whose canonical strides are all positive) -/
def Layout.NonDeg : Layout → Prop
  | .stride _ _ => True
  | L => ∀ e ∈ L.extents, 0 < e

theorem nonDeg_of_pos (L : Layout) (h : ∀ e ∈ L.extents, 0 < e) : L.NonDeg := by
  cases L <;> first | exact h | trivial

theorem admB_as_stride (T : ITy) (L : Layout) (hL : L.Std3) (h : L.admB T = true)
    (hpos : L.NonDeg) : (Layout.stride L.extents L.strides).admB T = true := by
  obtain ⟨_, hsp, hre, hrs⟩ := admB_elim T _ h
  have hsp := natCast_le_of_le (spanM1_succ_le_span1 L hL) hsp
  rw [Nat.add_comm] at hsp
  obtain ⟨es, ss, rfl | rfl | rfl⟩ := hL
  · refine admB_intro_stride T es _ (leftStridesFrom_pos 1 es Nat.one_pos hpos) ?_ hsp hre hrs
    rw [map_one0_of_pos es hpos]; exact valid_left_le es es (leL_refl es) hpos
  · refine admB_intro_stride T es _ (rightStrides_pos es hpos) ?_ hsp hre hrs
    rw [map_one0_of_pos es hpos]; exact valid_right_le es es (leL_refl es) hpos
  · exact h

theorem subLayout_admB (T : ITy) (L : Layout) (sl : List Slice) (hL : L.Std3)
    (h : L.admB T = true) (hnd : L.NonDeg) (hv : SlicesValid sl L.extents) :
    (subLayout L sl).admB T = true := by
  rcases subLayout_cases L sl with ⟨_, _, _, hk⟩ | ⟨_, _, _, hk⟩ | hk
  · exact subLayout_admB_kept T L sl h hv ⟨_, Or.inl hk⟩
  · exact subLayout_admB_kept T L sl h hv ⟨_, Or.inr hk⟩
  · rw [hk]
    exact subLayout_admB_stride T _ _ sl (admB_as_stride T L hL h hnd) hv

/-- a non-empty result has a non-empty source, so `NonDeg` need not be asked for -/
theorem subLayout_admB_nonempty (T : ITy) (L : Layout) (sl : List Slice) (hL : L.Std3)
    (h : L.admB T = true) (hv : SlicesValid sl L.extents)
    (hne : ∀ x ∈ subExts sl L.extents, 0 < x) :
    (subLayout L sl).admB T = true :=
  subLayout_admB T L sl hL h (nonDeg_of_pos L (source_pos_of_nonempty sl L.extents hv hne)) hv

/-- `NonDeg` cannot be dropped: `layout_left` over (0,5) is admissible and has the strides (1,0);
    a strided sub-view inherits the zero stride, which the precondition of `layout_stride` (and
    `validB`) rejects.  The result is empty (span 0). -/
example : (Layout.left [0, 5]).admB .i8 = true ∧ slicesValidB [.strided 0 0 1, .full] [0, 5] = true ∧
    (subLayout (.left [0, 5]) [.strided 0 0 1, .full]).strides = [1, 0] ∧
    (subLayout (.left [0, 5]) [.strided 0 0 1, .full]).admB .i8 = false ∧
    (subLayout (.left [0, 5]) [.strided 0 0 1, .full]).span = 0 := by decide +kernel

/-! ### (2) the chain: the pure-layer view, and the iteration from a record that describes a view -/

/-- one `submdspan` in the pure layer with the repaired offset, which `subMappingM` computes for empty
    results too; `View.sub` of C04 keeps `subOffsetOrig`, the same on non-empty results (`View.subR_eq_sub`) -/
def View.subR (v : View) (sl : List Slice) : View := ⟨v.off + subOffset v.L sl, subLayout v.L sl⟩

def View.subsR : View → List (List Slice) → View
  | v, [] => v
  | v, sl :: rest => (v.subR sl).subsR rest

/-- the slices applied at each level are valid for the view they slice, and every view whose
    sub-view is sliced in turn is non-degenerate (`Layout.NonDeg`: then the sub-view's mapping is
    admissible, `subLayout_admB`) -/
def ChainOK : View → List (List Slice) → Prop
  | _, [] => True
  | v, sl :: rest => SlicesValid sl v.L.extents ∧ (rest = [] ∨ v.L.NonDeg) ∧ ChainOK (v.subR sl) rest

theorem SubRes.Rep.chain_cons (T : ITy) {r : SubRes} {v : View} (hr : r.Rep v) (sl : List Slice)
    (rest : List (List SliceI)) (hL : v.L.Std3) (h : v.L.admB T = true)
    (hv : SlicesValid sl v.L.extents) (hs : strideRepB T (toSI sl) = true) :
    subChainM T r (toSI sl :: rest) = subChainM T (v.subR sl).toRes rest := by
  rw [subChainM, hr.step T sl hL h hv hs, hr.off]
  show subChainM T { subResP v.L sl with off := (v.off : Int) + (subOffset v.L sl : Nat) } rest = _
  rw [← Int.natCast_add]; rfl

/-- the iteration from a record that describes an admissible view: no undefined behaviour, and
    a record that describes the pure-layer view — its `View.toRes` if the iteration starts from one
    or makes at least one step.  The mapping need only be admissible if it is sliced at all. -/
theorem SubRes.Rep.chain (T : ITy) (chain : List (List Slice)) {r : SubRes} {v : View} (hr : r.Rep v)
    (hL : v.L.Std3) (h : chain ≠ [] → v.L.admB T = true) (hc : ChainOK v chain)
    (hs : ∀ sl ∈ chain, strideRepB T (toSI sl) = true) :
    ∃ r', subChainM T r (chain.map toSI) = .ok r' ∧ r'.Rep (v.subsR chain) ∧
      ((r = v.toRes ∨ chain ≠ []) → r' = (v.subsR chain).toRes) := by
  induction chain generalizing r v with
  | nil => exact ⟨r, rfl, hr, fun h => h.resolve_right (fun h => h rfl)⟩
  | cons sl rest ih =>
    have h := h (List.cons_ne_nil _ _)
    obtain ⟨hsl, hs⟩ := List.forall_mem_cons.mp hs
    rw [List.map_cons, hr.chain_cons T sl _ hL h hc.1 hsl]
    have hadm' : rest ≠ [] → (v.subR sl).L.admB T = true :=
      fun hne => subLayout_admB T v.L sl hL h (hc.2.1.resolve_left hne) hc.1
    obtain ⟨r', h1, h2, h3⟩ := ih (View.toRes_rep (v.subR sl)) (subLayout_std3 v.L sl) hadm' hc.2.2 hs
    exact ⟨r', h1, h2, fun _ => h3 (Or.inl rfl)⟩

theorem sub_chain (T : ITy) : ∀ (chain : List (List Slice)) (v : View), v.L.Std3 →
    v.L.admB T = true → ChainOK v chain → (∀ sl ∈ chain, strideRepB T (toSI sl) = true) →
    subChainM T v.toRes (chain.map toSI) = .ok (v.subsR chain).toRes := by
  intro chain v hL h hc hs
  obtain ⟨r', h1, _, h3⟩ := v.toRes_rep.chain T chain hL (fun _ => h) hc hs
  rw [h1, h3 (Or.inl rfl)]

/-! ### chains of non-empty views are those of C04 -/

/-- every view of the chain is non-empty -/
def ChainNE : View → List (List Slice) → Prop
  | _, [] => True
  | v, sl :: rest => (∀ x ∈ subExts sl v.L.extents, 0 < x) ∧ ChainNE (v.sub sl) rest

theorem View.subR_eq_sub (v : View) (sl : List Slice) (hv : SlicesValid sl v.L.extents)
    (hne : ∀ x ∈ subExts sl v.L.extents, 0 < x) : v.subR sl = v.sub sl := by
  rw [View.subR, subOffset_eq_orig_of_nonempty v.L sl hv hne]; rfl

theorem View.subsR_eq_subs : ∀ (chain : List (List Slice)) (v : View), ChainValid v chain →
    ChainNE v chain → v.subsR chain = v.subs chain := by
  intro chain v hc hn
  induction chain generalizing v with
  | nil => rfl
  | cons sl rest ih =>
    rw [View.subsR, View.subs, View.subR_eq_sub v sl hc.1 hn.1]
    exact ih (v.sub sl) hc.2 hn.2

theorem chainOK_of_valid_nonempty : ∀ (chain : List (List Slice)) (v : View), ChainValid v chain →
    ChainNE v chain → ChainOK v chain := by
  intro chain v hc hn
  induction chain generalizing v with
  | nil => trivial
  | cons sl rest ih =>
    refine ⟨hc.1, Or.inr (nonDeg_of_pos _ (source_pos_of_nonempty sl _ hc.1 hn.1)), ?_⟩
    rw [View.subR_eq_sub v sl hc.1 hn.1]
    exact ih (v.sub sl) hc.2 hn.2

theorem chain_valid_ne_of_nonempty (chain : List (List Slice)) (v : View) (hc : ChainOK v chain)
    (h : ∀ x ∈ (v.subsR chain).L.extents, 0 < x) :
    (∀ x ∈ v.L.extents, 0 < x) ∧ ChainValid v chain ∧ ChainNE v chain := by
  induction chain generalizing v with
  | nil => exact ⟨h, trivial, trivial⟩
  | cons sl rest ih =>
    obtain ⟨h1, h2, h3⟩ := ih (v.subR sl) hc.2.2 h
    have h1 : ∀ x ∈ subExts sl v.L.extents, 0 < x := subLayout_extents v.L sl ▸ h1
    rw [View.subR_eq_sub v sl hc.1 h1] at h2 h3
    exact ⟨source_pos_of_nonempty sl v.L.extents hc.1 h1, ⟨hc.1, h2⟩, ⟨h1, h3⟩⟩

theorem subs_admB (T : ITy) (chain : List (List Slice)) (v : View) (hL : v.L.Std3)
    (h : v.L.admB T = true) (hc : ChainValid v chain) (hn : ChainNE v chain) :
    (v.subs chain).L.admB T = true := by
  induction chain generalizing v with
  | nil => exact h
  | cons sl rest ih =>
    exact ih (v.sub sl) (subLayout_std3 v.L sl) (subLayout_admB_nonempty T v.L sl hL h hc.1 hn.1)
      hc.2 hn.2

theorem subsR_std3 (chain : List (List Slice)) (v : View) (h : v.L.Std3) : (v.subsR chain).L.Std3 := by
  induction chain generalizing v with
  | nil => exact h
  | cons sl rest ih => exact ih (v.subR sl) (subLayout_std3 v.L sl)

/-! ### the driver's predicate `subChainAdm`, and the theorem -/

theorem nonDegB_sound (L : Layout) (h : L.nonDegB = true) : L.NonDeg := by
  cases L with
  | stride es ss => trivial
  | _ => exact fun e he => of_decide_eq_true (List.all_eq_true.mp h e he)

theorem subChainAdmFrom_elim (T : ITy) (slcs : List (List SliceI)) (L : Layout) (o : Nat)
    (h : subChainAdmFrom T L slcs = true) :
    ∃ chain : List (List Slice), slcs.mapM (fun sls => sls.mapM toSlice) = some chain ∧
      slcs = chain.map toSI ∧ ChainOK ⟨o, L⟩ chain ∧ ∀ sl ∈ chain, strideRepB T (toSI sl) = true := by
  induction slcs generalizing L o with
  | nil => exact ⟨[], rfl, rfl, trivial, fun _ h => nomatch h⟩
  | cons sls rest ih =>
    rw [subChainAdmFrom] at h
    cases hsl : sls.mapM toSlice with
    | none => rw [hsl] at h; cases h
    | some sl =>
      rw [hsl] at h
      simp only [Bool.and_eq_true, Bool.or_eq_true] at h
      obtain ⟨⟨⟨hv, hrep⟩, hnd⟩, hrest⟩ := h
      obtain ⟨chain, hm, hmap, hok, hreps⟩ := ih (subLayout L sl) (o + subOffset L sl) hrest
      have e3 := mapM_toSlice sls sl hsl
      refine ⟨sl :: chain, ?_, ?_, ⟨slicesValidB_sound sl _ hv, ?_, hok⟩, ?_⟩
      · rw [List.mapM_cons, hsl, hm]; rfl
      · rw [List.map_cons, ← e3, ← hmap]
      · have hnil : rest.isEmpty = true → chain = [] :=
          fun h0 => List.map_eq_nil_iff.mp (List.isEmpty_iff.mp (hmap ▸ h0))
        exact hnd.imp hnil (nonDegB_sound L)
      · exact List.forall_mem_cons.mpr ⟨e3 ▸ hrep, hreps⟩

theorem subChainAdm_elim (T : ITy) (kind : String) (es ss : List Int) (slcs : List (List SliceI))
    (o : Nat) (h : subChainAdm T kind es ss slcs = true) :
    es.any (· < 0) = false ∧ ss.any (· < 0) = false ∧ (srcLayout kind es ss).admB T = true ∧
      ∃ chain : List (List Slice), slcs.mapM (fun sls => sls.mapM toSlice) = some chain ∧
        slcs = chain.map toSI ∧ ChainOK ⟨o, srcLayout kind es ss⟩ chain ∧
        ∀ sl ∈ chain, strideRepB T (toSI sl) = true := by
  unfold subChainAdm at h
  split at h
  · cases h
  · rename_i hneg
    simp only [Bool.or_eq_true, not_or, Bool.not_eq_true] at hneg
    rw [Bool.and_eq_true] at h
    exact ⟨hneg.1, hneg.2, h.1, subChainAdmFrom_elim T slcs _ o h.2⟩

theorem sub_chain_rep (T : ITy) (kind : String) (es ss : List Int) (slcs : List (List SliceI))
    (o : Nat) (hk : kind = "left" ∨ kind = "right" ∨ kind = "stride")
    (hadm : subChainAdm T kind es ss slcs = true) :
    ∃ (chain : List (List Slice)) (r : SubRes),
      slcs.mapM (fun sls => sls.mapM toSlice) = some chain ∧
      subChainM T { off := (o : Int), exts := es, kind := kind, strs := ss } slcs = .ok r ∧
      r.Rep (View.subsR ⟨o, srcLayout kind es ss⟩ chain) ∧
      (slcs ≠ [] → r = (View.subsR ⟨o, srcLayout kind es ss⟩ chain).toRes) ∧
      (srcLayout kind es ss).admB T = true ∧ ChainOK ⟨o, srcLayout kind es ss⟩ chain := by
  obtain ⟨hes, hss, hL, chain, hm, rfl, hok, hreps⟩ := subChainAdm_elim T kind es ss slcs o hadm
  obtain ⟨r, h1, h2, h3⟩ := (srcLayout_rep kind es ss o hk hes hss).chain T chain
    (srcLayout_std3 kind es ss) (fun _ => hL) hok hreps
  exact ⟨chain, r, hm, h1, h2, fun hne => h3 (Or.inr fun h => hne (h ▸ rfl)), hL, hok⟩

/-- **C14, chains of `submdspan`s** (views of views to any depth, machine level): if the root
    mapping is admissible and every slice tuple is valid for the view it is applied to
    (`subChainAdm`), the iteration executes no undefined behaviour and yields the pure-layer view
    `View.subsR`: its offset (the root offset plus the offsets of all levels) and its mapping. -/
theorem C14_sub_chain (T : ITy) (kind : String) (es ss : List Int) (slcs : List (List SliceI))
    (o : Nat) (hk : kind = "left" ∨ kind = "right" ∨ kind = "stride")
    (hadm : subChainAdm T kind es ss slcs = true) :
    ∃ (chain : List (List Slice)) (r : SubRes),
      slcs.mapM (fun sls => sls.mapM toSlice) = some chain ∧
      subChainM T { off := (o : Int), exts := es, kind := kind, strs := ss } slcs = .ok r ∧
      r.off = ((View.subsR ⟨o, srcLayout kind es ss⟩ chain).off : Int) ∧
      r.exts = (View.subsR ⟨o, srcLayout kind es ss⟩ chain).L.extents.map Int.ofNat ∧
      r.kind = (View.subsR ⟨o, srcLayout kind es ss⟩ chain).L.toI.kindStr ∧
      (slcs ≠ [] ∨ kind = "stride" →
        r.strs = (View.subsR ⟨o, srcLayout kind es ss⟩ chain).L.strides.map Int.ofNat) := by
  obtain ⟨chain, r, hm, h1, h2, h3, _, _⟩ := sub_chain_rep T kind es ss slcs o hk hadm
  refine ⟨chain, r, hm, h1, h2.off, h2.exts, h2.kind, ?_⟩
  rintro (hne | rfl)
  · rw [h3 hne]; rfl
  · cases slcs with
    | cons _ _ => rw [h3 (List.cons_ne_nil _ _)]; rfl
    | nil => cases h1; exact h2.strs rfl

/-! ### examples -/

/-- depth 2 below a root at handle 100 (the chain of C10b): rows [1,4) of layout_right (4,6), then
    row 2 of those, columns 1 and 3 -/
example : subChainAdm .i8 "right" [4, 6] [] [[.range 1 4, .full], [.idx 2, .strided 1 4 2]] = true ∧
    subChainM .i8 { off := 100, exts := [4, 6], kind := "right", strs := [] }
      [[.range 1 4, .full], [.idx 2, .strided 1 4 2]] =
      .ok { off := 119, exts := [2], kind := "stride", strs := [2] } := by decide +kernel

/-- depth 3, rank 3 → 3 → 2 → 1, `layout_left` root, all slice kinds; the pure-layer view agrees -/
example : subChainAdm .i8 "left" [4, 5, 6] []
      [[.full, .range 1 4, .strided 0 6 2], [.strided 1 3 2, .full, .idx 1], [.idx 0, .range 1 3]] = true ∧
    subChainM .i8 { off := 0, exts := [4, 5, 6], kind := "left", strs := [] }
      [[.full, .range 1 4, .strided 0 6 2], [.strided 1 3 2, .full, .idx 1], [.idx 0, .range 1 3]] =
      .ok { off := 49, exts := [2], kind := "stride", strs := [4] } ∧
    (View.subsR ⟨0, .left [4, 5, 6]⟩
      [[.full, .range 1 4, .strided 0 6 2], [.strided 1 3 2, .full, .idx 1], [.idx 0, .range 1 3]]).toRes =
      { off := 49, exts := [2], kind := "stride", strs := [4] } := by decide +kernel

/-- a `layout_stride` root with a zero extent, an at-end slice, empty views sliced again -/
example : subChainAdm .i16 "stride" [4, 0, 6] [1, 4, 100]
      [[.strided 1 3 2, .full, .range 6 6], [.full, .full, .full], [.idx 1, .range 0 0, .full]] = true ∧
    subChainM .i16 { off := 7, exts := [4, 0, 6], kind := "stride", strs := [1, 4, 100] }
      [[.strided 1 3 2, .full, .range 6 6], [.full, .full, .full], [.idx 1, .range 0 0, .full]] =
      .ok { off := 7, exts := [0, 0], kind := "stride", strs := [4, 100] } := by decide +kernel

/-- slices valid for the root but not for the view they are applied to are rejected -/
example : subChainAdm .i8 "left" [4, 5, 6] [] [[.full, .range 1 4, .idx 2], [.full, .range 0 4]] = false ∧
    subChainAdm .i8 "left" [4, 5, 6] [] [[.full, .range 1 4, .idx 2], [.full, .range 0 3]] = true := by
  decide +kernel

/-- the degenerate `layout_left` root over (0,5): one level is admissible, slicing its strided
    (zero-stride) result again is not -/
example : subChainAdm .i8 "left" [0, 5] [] [[.strided 0 0 1, .full]] = true ∧
    subChainAdm .i8 "left" [0, 5] [] [[.strided 0 0 1, .full], [.full, .range 1 3]] = false := by decide +kernel

/-- an inadmissible root: the iteration reports the signed overflow -/
example : subChainAdm .i32 "left" [65536, 65536, 2] [] [[.full, .full, .full], [.full, .full, .full]] = false ∧
    subChainM .i32 { off := 0, exts := [65536, 65536, 2], kind := "left", strs := [] }
      [[.full, .full, .full], [.full, .full, .full]] = .error .overflow := by decide +kernel

end Mdspan
