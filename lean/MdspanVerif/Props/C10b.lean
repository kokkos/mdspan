import MdspanVerif.Props.C04c
import MdspanVerif.Props.C05
import MdspanVerif.Props.C10
/-!
# C10, second half — a non-empty submdspan reaches no further than its source's span

The result mapping of `submdspan` is always a layout_left / layout_right / layout_stride
mapping; for those three the span is *exactly* one more than the offset of the largest
index (C05), whatever the strides are.  That offset is the source offset of an in-bounds
source index (C04), hence below the source's span (C01).  No validity of the result mapping
is needed.
-/
namespace Mdspan

theorem Layout.Std3.span_exact {L : Layout} (h : L.Std3) (hne : ∀ x ∈ L.extents, 0 < x) :
    L.span = L.offset (maxIdx L.extents) + 1 := by
  obtain ⟨es, ss, rfl | rfl | rfl⟩ := h
  · exact C05_left_exact es hne
  · exact C05_right_exact es hne
  · exact spanStride_exact es ss hne

theorem subOffset_eq_orig_of_nonempty (L : Layout) (sls : List Slice)
    (hs : SlicesValid sls L.extents) (hne : ∀ x ∈ subExts sls L.extents, 0 < x) :
    subOffset L sls = subOffsetOrig L sls := by
  rw [subOffset, anyAtEnd_false_of_nonempty sls L.extents hs hne]; rfl

/-- C04 with the repaired offset: an element of the result exists only if the result is non-empty -/
theorem sub_alias_repaired (L : Layout) (hsl : L.strides.length = L.extents.length) (sls : List Slice)
    (js : List Nat) (hs : SlicesValid sls L.extents) (hj : InB js (subExts sls L.extents)) :
    subOffset L sls + (subLayout L sls).offset js = L.offset (compose sls js) := by
  rw [subOffset_eq_orig_of_nonempty L sls hs (inB_pos js _ hj)]
  exact sub_alias L hsl sls js hs hj

/-- **C10 (fits), sharp form**: for a non-empty result the last element of the view is an
    element of the source: `offset + span(view) - 1` is the source offset of the in-bounds
    source index `compose sls (maxIdx …)`. -/
theorem C10_last (L : Layout) (hv : L.Valid) (sls : List Slice)
    (hs : SlicesValid sls L.extents) (hne : ∀ x ∈ subExts sls L.extents, 0 < x) :
    subOffset L sls + (subLayout L sls).span
        = L.offset (compose sls (maxIdx (subExts sls L.extents))) + 1 ∧
      InB (compose sls (maxIdx (subExts sls L.extents))) L.extents := by
  have hj := maxIdx_inB _ hne
  have hex := (subLayout_std3 L sls).span_exact
  rw [subLayout_extents] at hex
  rw [hex hne, ← Nat.add_assoc, sub_alias_repaired L (strides_length L hv) sls _ hs hj]
  exact ⟨rfl, compose_inB sls L.extents _ hs hj⟩

/-- **C10 (fits)**: when the resulting view is non-empty,
    `offset + view.required_span_size() ≤ source.required_span_size()` — all five source
    layouts, kept or strided result layout, any rank, any valid slices. -/
theorem C10_fits' (L : Layout) (hv : L.Valid) (sls : List Slice)
    (hs : SlicesValid sls L.extents) (hne : ∀ x ∈ subExts sls L.extents, 0 < x) :
    subOffset L sls + (subLayout L sls).span ≤ L.span := by
  obtain ⟨h1, h2⟩ := C10_last L hv sls hs hne
  rw [h1]; exact C01_range L hv _ h2

/-- `C10_fits'` with the two hypotheses one would expect it to need: the strides' length `_hsl`
    follows from `hv`, and the result mapping need not be valid (`_hvs`) -/
theorem C10_fits (L : Layout) (hv : L.Valid) (_hsl : L.strides.length = L.extents.length)
    (sls : List Slice) (hs : SlicesValid sls L.extents)
    (hne : ∀ x ∈ subExts sls L.extents, 0 < x) (_hvs : (subLayout L sls).Valid) :
    subOffset L sls + (subLayout L sls).span ≤ L.span :=
  C10_fits' L hv sls hs hne

/-- every element of a sub-view is addressed below the source's span -/
theorem C10_elem_lt (L : Layout) (hv : L.Valid) (sls : List Slice)
    (hs : SlicesValid sls L.extents) (js : List Nat) (hj : InB js (subExts sls L.extents)) :
    subOffset L sls + (subLayout L sls).offset js < L.span := by
  rw [sub_alias_repaired L (strides_length L hv) sls js hs hj]
  exact C01_range L hv _ (compose_inB sls L.extents js hs hj)

/-- the address (offset in the source's buffer) of element `js` of the sub-view -/
def subAddr (L : Layout) (sl : List Slice) (js : List Nat) : Nat :=
  subOffset L sl + (subLayout L sl).offset js

/-- C04 and C10 for one `submdspan`: element `js` of the sub-view is the source element `compose sl js`,
    inside the source's extents, at an offset below the source's span -/
theorem subAddr_spec (L : Layout) (hvL : L.Valid) (sl : List Slice) (hv : SlicesValid sl L.extents)
    (js : List Nat) (hj : InB js (subExts sl L.extents)) :
    subAddr L sl js = L.offset (compose sl js) ∧ InB (compose sl js) L.extents ∧
      subAddr L sl js < L.span :=
  ⟨sub_alias_repaired L (strides_length L hvL) sl js hv hj, compose_inB sl L.extents js hv hj,
    C10_elem_lt L hvL sl hv js hj⟩

/-- **C10, chains (elements)**: every element of the innermost view of a chain of
    `submdspan`s, of any depth, is addressed inside the root's span. -/
theorem View.subs_in_root (v : View) (hv : v.L.Valid) (chain : List (List Slice))
    (hc : ChainValid v chain) (js : List Nat) (hj : InB js (v.subs chain).L.extents) :
    v.off ≤ (v.subs chain).addr js ∧ (v.subs chain).addr js < v.off + v.L.span := by
  obtain ⟨h1, h2⟩ := View.subs_addr chain v (strides_length v.L hv) hc js hj
  rw [h1]
  exact ⟨Nat.le_add_right _ _, Nat.add_lt_add_left (C01_range v.L hv _ h2) _⟩

theorem View.subs_off_ge (chain : List (List Slice)) (v : View) : v.off ≤ (v.subs chain).off := by
  induction chain generalizing v with
  | nil => exact Nat.le_refl _
  | cons sls rest ih => exact Nat.le_trans (Nat.le_add_right _ _) (ih (v.sub sls))

theorem View.subs_std3 (chain : List (List Slice)) (v : View) (h : v.L.Std3 ∨ chain ≠ []) :
    (v.subs chain).L.Std3 := by
  induction chain generalizing v with
  | nil => exact h.resolve_right (fun h => h rfl)
  | cons sls rest ih => exact ih (v.sub sls) (Or.inl (subLayout_std3 v.L sls))

/-- **C10, chains (spans)**: the whole span `[off, off + required_span_size())` of a non-empty
    view obtained by any chain of `submdspan`s lies inside the root's
    `[off, off + required_span_size())`.  Intermediate views need no separate hypothesis. -/
theorem View.subs_fits (v : View) (hv : v.L.Valid) (chain : List (List Slice))
    (hc : ChainValid v chain) (hne : ∀ x ∈ (v.subs chain).L.extents, 0 < x) :
    v.off ≤ (v.subs chain).off ∧
      (v.subs chain).off + (v.subs chain).L.span ≤ v.off + v.L.span := by
  refine ⟨View.subs_off_ge chain v, ?_⟩
  cases chain with
  | nil => exact Nat.le_refl _
  | cons sls rest =>
    rw [(View.subs_std3 (sls :: rest) v (Or.inr (List.cons_ne_nil _ _))).span_exact hne]
    exact (View.subs_in_root v hv (sls :: rest) hc _ (maxIdx_inB _ hne)).2

/-- layout_right (4,6), rows [1,3), every second column of the first five: a strided result -/
example : subOffset (.right [4, 6]) [.range 1 3, .strided 0 5 2] = 6 ∧
    (subLayout (.right [4, 6]) [.range 1 3, .strided 0 5 2]).span = 11 ∧
    (Layout.right [4, 6]).span = 24 := by decide +kernel

example : subOffset (.right [4, 6]) [.range 1 3, .strided 0 5 2]
    + (subLayout (.right [4, 6]) [.range 1 3, .strided 0 5 2]).span ≤ (Layout.right [4, 6]).span :=
  C10_fits' (.right [4, 6]) trivial [.range 1 3, .strided 0 5 2] (by decide +kernel) (by decide +kernel)

/-- a padded source: layout_left_padded (5,2,3) with padded stride 8, last row block reaches the end -/
example : subOffset (.lpad [5, 2, 3] 8) [.range 2 5, .idx 1, .range 1 3]
    + (subLayout (.lpad [5, 2, 3] 8) [.range 2 5, .idx 1, .range 1 3]).span
      ≤ (Layout.lpad [5, 2, 3] 8).span :=
  C10_fits' (.lpad [5, 2, 3] 8) (by simp [Layout.Valid, padOKLeft_iff]) _ (by decide +kernel)
    (by decide +kernel)

/-- the bound is attained (full slices), so it cannot be improved -/
example : subOffset (.right [3, 4]) [.full, .full] + (subLayout (.right [3, 4]) [.full, .full]).span
    = (Layout.right [3, 4]).span := by decide +kernel

/-- a chain of depth 2 below a root at handle 100: rows [1,4) then row 2 of those, columns 1,3 -/
theorem c10bChain_valid :
    ChainValid ⟨100, .right [4, 6]⟩ [[.range 1 4, .full], [.idx 2, .strided 1 4 2]] := by decide +kernel

example : (View.subs ⟨100, .right [4, 6]⟩ [[.range 1 4, .full], [.idx 2, .strided 1 4 2]]).off = 119 ∧
    (View.subs ⟨100, .right [4, 6]⟩ [[.range 1 4, .full], [.idx 2, .strided 1 4 2]]).L.span = 3 ∧
    (View.subs ⟨100, .right [4, 6]⟩ [[.range 1 4, .full], [.idx 2, .strided 1 4 2]]).L.extents = [2] := by
  decide +kernel

example : 100 ≤ (View.subs ⟨100, .right [4, 6]⟩ [[.range 1 4, .full], [.idx 2, .strided 1 4 2]]).off ∧
    (View.subs ⟨100, .right [4, 6]⟩ [[.range 1 4, .full], [.idx 2, .strided 1 4 2]]).off +
      (View.subs ⟨100, .right [4, 6]⟩ [[.range 1 4, .full], [.idx 2, .strided 1 4 2]]).L.span
        ≤ 100 + 24 :=
  View.subs_fits ⟨100, .right [4, 6]⟩ trivial _ c10bChain_valid (by decide +kernel)

end Mdspan
