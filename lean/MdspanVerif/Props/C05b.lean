import MdspanVerif.Props.C05
/-!
# C05 — required_span_size of the padded layouts: empty index spaces, rank 0 and rank 1

`required_span_size()` is 0 for an empty index space, 1 for rank 0, the extent for rank 1
(no padding is applied), and otherwise at least `max offset + 1` and exactly
`padded stride × product of the remaining extents`.

The "0 iff empty" part needs one fact about the padded stride: it is 0 exactly when the
extent it pads is 0.  This holds for every constructed mapping, whose padded stride is
`find_next_multiple(padding, extent)` with a positive padding.
-/
namespace Mdspan

/-! ### the padded stride of a constructed mapping -/

theorem padOKLeft_constructed (a : Nat) (ha : 0 < a) (es : List Nat) :
    PadOKLeft (findNextMultiple a (es.headD 0)) es := by
  rcases es with _ | ⟨e, _ | ⟨e', es⟩⟩
  · exact Or.inl (by simp)
  · exact Or.inl (by simp)
  · exact (padOKLeft_iff _ e e' es).mpr (findNextMultiple_ge a e ha)

theorem padOKRight_constructed (a : Nat) (ha : 0 < a) (es : List Nat) :
    PadOKRight (findNextMultiple a (es.getLast?.getD 0)) es := by
  rcases es with _ | ⟨e, es⟩
  · exact Or.inl (by simp)
  · have hl : (e :: es).getLast? = some _ := List.getLast?_cons
    rw [hl]
    exact Or.inr ((leL_replaceLast_iff hl).mpr (findNextMultiple_ge a _ ha))

/-! ### layout_left_padded -/

/-- **C05, layout_left_padded, rank ≥ 2**: the span is 0 exactly for an empty index space,
    provided the padded stride vanishes exactly when the padded (first) extent does.
    (`PadOKLeft` is not needed for this part.) -/
theorem C05_lpad_zero_iff (ps e e' : Nat) (es : List Nat) (hz : ps = 0 ↔ e = 0) :
    (Layout.lpad (e :: e' :: es) ps).span = 0 ↔ 0 ∈ e :: e' :: es := by
  rw [C05_lpad_upper, Nat.mul_eq_zero, prod_eq_zero_iff, List.mem_cons (a := 0) (b := e), hz,
    eq_comm]

/-- every constructed layout_left_padded mapping (positive padding `a`) -/
theorem C05_lpad_zero_constructed (a e e' : Nat) (es : List Nat) (ha : 0 < a) :
    (Layout.lpad (e :: e' :: es) (findNextMultiple a e)).span = 0 ↔ 0 ∈ e :: e' :: es :=
  C05_lpad_zero_iff _ e e' es (findNextMultiple_eq_zero_iff a e ha)

theorem C05_lpad_rank1 (ps e : Nat) : (Layout.lpad [e] ps).span = e := rfl
theorem C05_lpad_rank0 (ps : Nat) : (Layout.lpad [] ps).span = 1 := rfl

/-! ### layout_right_padded -/

/-- **C05, layout_right_padded, rank ≥ 2**: the span is 0 exactly for an empty index space,
    provided the padded stride vanishes exactly when the padded (last) extent does. -/
theorem C05_rpad_zero_iff (ps e e' el : Nat) (es : List Nat)
    (hl : (e :: e' :: es).getLast? = some el) (hz : ps = 0 ↔ el = 0) :
    (Layout.rpad (e :: e' :: es) ps).span = 0 ↔ 0 ∈ e :: e' :: es := by
  rw [C05_rpad_upper, prod_eq_zero_iff]
  obtain ⟨init, hinit⟩ := List.getLast?_eq_some_iff.mp hl
  rw [hinit, replaceLast_concat]
  simp only [List.mem_append, List.mem_singleton, eq_comm (a := 0), hz]

/-- every constructed layout_right_padded mapping (positive padding `a`) -/
theorem C05_rpad_zero_constructed (a e e' el : Nat) (es : List Nat) (ha : 0 < a)
    (hl : (e :: e' :: es).getLast? = some el) :
    (Layout.rpad (e :: e' :: es) (findNextMultiple a el)).span = 0 ↔ 0 ∈ e :: e' :: es :=
  C05_rpad_zero_iff _ e e' el es hl (findNextMultiple_eq_zero_iff a el ha)

theorem C05_rpad_rank1 (ps e : Nat) : (Layout.rpad [e] ps).span = e := rfl
theorem C05_rpad_rank0 (ps : Nat) : (Layout.rpad [] ps).span = 1 := rfl

/-! ### the full C05 statement for the padded layouts, every rank -/

/-- layout_left_padded.  Under `PadOKLeft` (padded stride ≥ first extent) only one direction of
    the side condition of `C05_lpad_zero_iff` has to be assumed. -/
theorem C05_lpad (ps : Nat) (es : List Nat) (hv : (Layout.lpad es ps).Valid)
    (hz : es.headD 0 = 0 → ps = 0) :
    ((Layout.lpad es ps).span = 0 ↔ 0 ∈ es) ∧
    (es = [] → (Layout.lpad es ps).span = 1) ∧
    ((∀ x ∈ es, 0 < x) →
      (Layout.lpad es ps).offset (maxIdx es) + 1 ≤ (Layout.lpad es ps).span) ∧
    (2 ≤ es.length → (Layout.lpad es ps).span = ps * prod es.tail) := by
  refine ⟨?_, fun h => h ▸ rfl, fun hp => C05_padded_lower _ hv hp (strides_length _ hv), ?_⟩
  · rcases es with _ | ⟨e, _ | ⟨e', es⟩⟩
    · exact iff_of_false Nat.one_ne_zero List.not_mem_nil
    · exact (List.mem_singleton.trans eq_comm).symm
    · have hle := (padOKLeft_iff ps e e' es).mp hv
      exact C05_lpad_zero_iff ps e e' es ⟨fun h => Nat.le_zero.mp (h ▸ hle), hz⟩
  · rcases es with _ | ⟨_, _ | _⟩
    · simp
    · simp
    · exact fun _ => rfl

/-- layout_right_padded, same statement -/
theorem C05_rpad (ps : Nat) (es : List Nat) (hv : (Layout.rpad es ps).Valid)
    (hz : es.getLast?.getD 0 = 0 → ps = 0) :
    ((Layout.rpad es ps).span = 0 ↔ 0 ∈ es) ∧
    (es = [] → (Layout.rpad es ps).span = 1) ∧
    ((∀ x ∈ es, 0 < x) →
      (Layout.rpad es ps).offset (maxIdx es) + 1 ≤ (Layout.rpad es ps).span) ∧
    (2 ≤ es.length → (Layout.rpad es ps).span = prod (replaceLast ps es)) := by
  refine ⟨?_, fun h => h ▸ rfl, fun hp => C05_padded_lower _ hv hp (strides_length _ hv), ?_⟩
  · rcases es with _ | ⟨e, _ | ⟨e', es⟩⟩
    · exact iff_of_false Nat.one_ne_zero List.not_mem_nil
    · exact (List.mem_singleton.trans eq_comm).symm
    · obtain ⟨el, hl⟩ : ∃ el, (e :: e' :: es).getLast? = some el := ⟨_, List.getLast?_cons⟩
      rw [hl] at hz
      have hle := (padOKRight_iff hl (Nat.le_add_left 2 _)).mp hv
      exact C05_rpad_zero_iff ps e e' el es hl ⟨fun h => Nat.le_zero.mp (h ▸ hle), hz⟩
  · rcases es with _ | ⟨e, _ | ⟨e', es⟩⟩
    · simp
    · simp
    · exact fun _ => C05_rpad_upper ps e e' es

/-! ### non-vacuity, and why the side condition is needed -/

example : (Layout.lpad [5, 0, 3] 8).span = 0 := by decide +kernel
example : (Layout.lpad [0, 2, 3] (findNextMultiple 4 0)).span = 0 := by decide +kernel
example : (Layout.rpad [2, 0, 5] 8).span = 0 := by decide +kernel
example : (Layout.rpad [2, 3, 0] (findNextMultiple 4 0)).span = 0 := by decide +kernel
example : (Layout.lpad [5, 2, 3] (findNextMultiple 4 5)).span = 48 := by decide +kernel
example : (Layout.rpad [2, 3, 5] (findNextMultiple 4 5)).span = 48 := by decide +kernel
example : (Layout.lpad [5, 2, 3] 8).span = 0 ↔ 0 ∈ [5, 2, 3] :=
  C05_lpad_zero_iff 8 5 2 [3] (by decide +kernel)
example : (Layout.rpad [2, 3, 5] 8).span = 0 ↔ 0 ∈ [2, 3, 5] :=
  C05_rpad_zero_iff 8 2 3 5 [5] rfl (by decide +kernel)
-- a hand-made mapping that pads an empty extent to a non-zero stride would report a
-- non-zero span for an empty index space: the side condition cannot be dropped
example : (Layout.lpad [0, 2, 3] 8).Valid ∧ (Layout.lpad [0, 2, 3] 8).span = 48 :=
  ⟨(padOKLeft_iff 8 0 2 [3]).mpr (Nat.zero_le 8), by decide +kernel⟩
example : (Layout.rpad [2, 3, 0] 8).Valid ∧ (Layout.rpad [2, 3, 0] 8).span = 48 :=
  ⟨(padOKRight_iff (el := 0) rfl (by decide)).mpr (Nat.zero_le 8), by decide +kernel⟩

end Mdspan
