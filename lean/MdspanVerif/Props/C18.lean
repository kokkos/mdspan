import MdspanVerif.Model.Sizes
import MdspanVerif.Props.C02
/-!
# C18 — static information costs no storage (consequences of the size formulas)
-/
namespace Mdspan

theorem ITy.size_pos (T : ITy) : 0 < T.size := by cases T <;> decide +kernel

theorem upTo_eq (x a : Nat) (ha : 0 < a) : upTo x a = findNextMultiple a x :=
  (if_neg (Nat.ne_of_gt ha)).symm.trans (findNextMultipleOrig_eq a x)

theorem upTo_ge (x a : Nat) (ha : 0 < a) : x ≤ upTo x a :=
  upTo_eq x a ha ▸ (findNextMultiple_spec a x ha).2.1

theorem upTo_mono {x y : Nat} (a : Nat) (h : x ≤ y) : upTo x a ≤ upTo y a :=
  Nat.mul_le_mul_right _ (Nat.div_le_div_right (Nat.sub_le_sub_right (Nat.add_le_add_right h a) 1))

/-- **C18 (extents)**: `sizeof(extents)` is `rank_dynamic() × sizeof(index_type)`; an empty class
    exactly when there is no dynamic extent -/
theorem C18_ext (T : ITy) (p : Pattern) :
    (isEmptyExt p = true ↔ rankDyn p = 0) ∧ (0 < rankDyn p → sizeofExt T p = rankDyn p * T.size) :=
  ⟨beq_iff_eq, fun h => Nat.max_eq_right (Nat.mul_pos h T.size_pos)⟩

/-- the size depends on the number of dynamic extents only, and grows with it -/
theorem C18_ext_mono (T : ITy) (p q : Pattern) (h : rankDyn p ≤ rankDyn q) : sizeofExt T p ≤ sizeofExt T q :=
  Nat.max_le.mpr ⟨Nat.le_max_left _ _, Nat.le_trans (Nat.mul_le_mul_right _ h) (Nat.le_max_right _ _)⟩

/-- **C18 (layout_left / layout_right)** add nothing to their extents -/
theorem C18_lr (T : ITy) (p : Pattern) : sizeofLR T p = sizeofExt T p ∧ isEmptyLR p = isEmptyExt p := ⟨rfl, rfl⟩

/-- **C18 (layout_stride)** adds exactly `rank()` strides -/
theorem C18_stride (T : ITy) (p : Pattern) (hr : 0 < p.length) :
    sizeofStride T p = rankDyn p * T.size + p.length * T.size ∧
    (0 < rankDyn p → sizeofStride T p = sizeofExt T p + p.length * T.size) := by
  have h1 : sizeofStride T p = rankDyn p * T.size + p.length * T.size :=
    (if_neg (Nat.ne_of_gt hr)).trans (Nat.add_mul ..)
  exact ⟨h1, fun h => (C18_ext T p).2 h ▸ h1⟩

/-- **C18 (padded layouts)** add at most one `index_type` value (up to alignment) to their extents,
    whether the padded stride is a run-time member or not -/
theorem C18_padded (T : ITy) (p : Pattern) (b : Bool) :
    sizeofPadded T p b ≤ upTo (sizeofExt T p + T.size) T.size := by
  have hz := T.size_pos
  unfold sizeofPadded sizeofExt
  split
  · rw [Nat.add_comm]; exact Nat.le_refl _
  · split
    · exact Nat.le_trans (Nat.add_le_add (Nat.le_max_left 1 _) hz) (upTo_ge _ _ hz)
    · exact upTo_mono _ (Nat.add_comm 1 _ ▸ Nat.add_le_add (Nat.le_max_right 1 _) hz)

/-- **C18 (mdspan)**: an empty mapping and an empty accessor give a pointer-sized mdspan -/
theorem C18_mds_pointer_sized (mapDsize accSize accAlign : Nat) : sizeofMds mapDsize true accSize accAlign true = 8 := by
  simp [sizeofMds, upTo]

/-- so do all-static extents under layout_left / layout_right with an empty accessor -/
theorem C18_mds_lr_static (T : ITy) (p : Pattern) (hp : rankDyn p = 0) (accSize accAlign : Nat) :
    sizeofMds (sizeofLR T p) (isEmptyLR p) accSize accAlign true = 8 := by
  rw [show isEmptyLR p = true from (C18_ext T p).1.mpr hp]
  exact C18_mds_pointer_sized _ _ _

/-- an mdspan is at least its data handle plus its non-empty mapping and accessor -/
theorem C18_mds_ge (m : Nat) (me : Bool) (a al : Nat) (ae : Bool) (hal : 0 < al) :
    8 + (if me then 0 else m) + (if ae then 0 else a) ≤ sizeofMds m me a al ae := by
  unfold sizeofMds
  refine Nat.le_trans ?_ (upTo_ge _ 8 (by decide))
  cases ae
  · exact Nat.add_le_add_right (upTo_ge _ al hal) a
  · exact Nat.le_refl _

theorem dsizePadded_le (T : ITy) (p : Pattern) (b : Bool) : dsizePadded T p b ≤ sizeofPadded T p b := by
  unfold dsizePadded
  split
  · next h =>
    simp only [Bool.and_eq_true, beq_iff_eq] at h
    have hz := T.size_pos
    simp only [sizeofPadded, h.1, h.2, if_true, Nat.zero_mul]
    exact upTo_ge _ _ hz
  · exact Nat.le_refl _

example : sizeofExt .i32 [none, some 3, none] = 8 ∧ sizeofStride .i32 [none, some 3, none] = 20 := by decide +kernel
example : sizeofPadded .i32 [none, none] true = 12 ∧ sizeofPadded .i64 [some 4, some 4] false = 2 := by decide +kernel
example : sizeofMds (sizeofLR .i32 [some 3, some 4]) (isEmptyLR [some 3, some 4]) 1 1 true = 8 := by decide +kernel
example : sizeofMds (dsizePadded .i64 [some 4, some 6] true) false 4 4 false = 24 := by decide +kernel

end Mdspan
