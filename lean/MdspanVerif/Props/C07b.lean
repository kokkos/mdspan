import MdspanVerif.Props.C07
/-!
# C07 — `is_exhaustive()` of the padded layouts

A padded mapping covers its span exactly when the padded extent (the first for
layout_left_padded, the last for layout_right_padded) equals the padded stride, which is what
`is_exhaustive()` tests.  At rank 1 nothing is padded.
-/
namespace Mdspan

/-- **C07, layout_left_padded**, rank ≥ 2: the instance of `Layout.exhaustive_iff_covers` -/
theorem C07_lpad (ps e e' : Nat) (es : List Nat) (hv : (Layout.lpad (e :: e' :: es) ps).Valid)
    (hpos : ∀ x ∈ e :: e' :: es, 0 < x) :
    (Layout.lpad (e :: e' :: es) ps).isExhaustive = true ↔ (Layout.lpad (e :: e' :: es) ps).Covers :=
  Layout.exhaustive_iff_covers _ hv hpos

/-- **C07, layout_right_padded**, rank ≥ 2: the instance of `Layout.exhaustive_iff_covers` -/
theorem C07_rpad (ps e e' : Nat) (es : List Nat) (hv : (Layout.rpad (e :: e' :: es) ps).Valid)
    (hpos : ∀ x ∈ e :: e' :: es, 0 < x) :
    (Layout.rpad (e :: e' :: es) ps).isExhaustive = true ↔ (Layout.rpad (e :: e' :: es) ps).Covers :=
  Layout.exhaustive_iff_covers _ hv hpos

/-! ### rank 1: no padding is applied, always exhaustive, always covering (also for extent 0) -/

theorem C07_lpad_rank1 (ps e : Nat) :
    (Layout.lpad [e] ps).isExhaustive = true ∧ (Layout.lpad [e] ps).Covers :=
  ⟨rfl, Layout.covers_of_span_eq_prod _ (Or.inl (by simp)) (Nat.mul_one e).symm⟩

theorem C07_rpad_rank1 (ps e : Nat) :
    (Layout.rpad [e] ps).isExhaustive = true ∧ (Layout.rpad [e] ps).Covers :=
  ⟨rfl, Layout.covers_of_span_eq_prod _ (Or.inl (by simp)) (Nat.mul_one e).symm⟩

/-- both padded layouts, any rank: for a valid mapping with a non-empty index space
    `is_exhaustive()` is exact -/
theorem C07_padded (es : List Nat) (ps : Nat) (hpos : ∀ x ∈ es, 0 < x) :
    ((Layout.lpad es ps).Valid →
      ((Layout.lpad es ps).isExhaustive = true ↔ (Layout.lpad es ps).Covers)) ∧
    ((Layout.rpad es ps).Valid →
      ((Layout.rpad es ps).isExhaustive = true ↔ (Layout.rpad es ps).Covers)) :=
  ⟨fun hv => Layout.exhaustive_iff_covers _ hv hpos,
    fun hv => Layout.exhaustive_iff_covers _ hv hpos⟩

/-- what a layout_right_padded mapping of rank ≥ 2 leaves uncovered (C07; used by no theorem, no left twin):
    its span exceeds the largest offset + 1 by the padding `ps - el` of the last extent -/
theorem rpad_span_formula (ps : Nat) : ∀ (es : List Nat), es ≠ [] → (∀ x ∈ es, 0 < x) →
    ∃ el, es.getLast? = some el ∧
      spanM1 (List.zip es (rightStrides (replaceLast ps es))) + 1 + ps = prod (replaceLast ps es) + el := by
  intro es hne h
  induction es with
  | nil => exact absurd rfl hne
  | cons e es ih =>
    obtain ⟨he, h⟩ := List.forall_mem_cons.mp h
    rcases es with _ | ⟨e', es⟩
    · refine ⟨e, rfl, ?_⟩
      simp only [replaceLast, rightStrides, List.zip_cons_cons, List.zip_nil_right, spanM1, prod]
      omega
    · obtain ⟨el, hl, hf⟩ := ih (List.cons_ne_nil _ _) h
      refine ⟨el, List.getLast?_cons_cons.trans hl, ?_⟩
      have := pred_mul_add e (prod (replaceLast ps (e' :: es))) he
      simp only [replaceLast, rightStrides, List.zip_cons_cons, spanM1, prod] at hf ⊢
      omega

/-! ### non-vacuity -/

-- padded: not exhaustive, and indeed offset 47 = span - 1 is never produced (the largest offset is 44)
example : (Layout.rpad [2, 3, 5] 8).isExhaustive = false := by decide +kernel
example : ¬ (Layout.rpad [2, 3, 5] 8).Covers := fun hc =>
  absurd ((C07_rpad 8 2 3 [5] ((padOKRight_iff (el := 5) rfl (by decide)).mpr (by decide))
    (by decide +kernel)).mpr hc) (by decide +kernel)
-- unpadded (padded stride = last extent): exhaustive and covering
example : (Layout.rpad [2, 3, 8] 8).Covers :=
  (C07_rpad 8 2 3 [8] ((padOKRight_iff (el := 8) rfl (by decide)).mpr (Nat.le_refl 8))
    (by decide +kernel)).mp (by decide +kernel)

end Mdspan
