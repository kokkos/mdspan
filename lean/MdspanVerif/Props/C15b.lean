import MdspanVerif.Props.C20
import MdspanVerif.Model.Convert
import MdspanVerif.Model.Extents
/-!
# C15 — valid inputs never trip a debug-mode check

Every run-time check the library compiles only in debug configurations (`assert` without `NDEBUG`,
the `std::abort()` walks, the `_MDSPAN_DEBUG` blocks), as an executable predicate over the model's
values, together with the documented precondition of the operation that contains it.  The site list
is regenerated from the source on every run (`vf/checks_c15.py`, `debug_check_sites`): a check that
appears, disappears or changes its condition breaks the correspondence with this file.

| constructor | source site |
|---|---|
| `strideToLeft` / `strideToRight` | layout_left.hpp / layout_right.hpp, `mapping(layout_stride::mapping const&)`: the stride walk, `std::abort()` |
| `paddedToUnpadded` | layout_padded_fwd.hpp `check_padded_layout_converting_constructor_preconditions`: `other.stride(padded_stride_idx) == other.extents().extent(extent_to_pad_idx)` for rank > 1 |
| `paddedCtorPadding` | layout_padded.hpp, `mapping(ext, dynamic_padding_value)` (left and right): `padding_value == dynamic_extent || padding_value == dynamic_padding_value` |
| `paddedStrideRank` | layout_padded.hpp, `stride(r)` (left and right): `r < rank()` |
| `mdarrayAdopt` | mdarray.hpp, the eight container-adopting constructors: `ctr.size() >= map_.required_span_size()` |
| `extentsStaticValue` | extents.hpp (`_MDSPAN_DEBUG`), all-values constructors (pack / array / span): the value given at a static position equals the static extent |
| `extentsCount` | extents.hpp (`_MDSPAN_DEBUG`), array / span constructors: `N == m_size` |
-/
namespace Mdspan

inductive DebugCheck
  | strideToLeft (es ss : List Nat)
  | strideToRight (es ss : List Nat)
  | paddedToUnpadded (src : Layout) (dst : LKind)
  | paddedCtorPadding (staticPadding : Option Nat) (pv : Nat)
  | paddedStrideRank (r rank : Nat)
  | mdarrayAdopt (span containerSize : Nat)
  | extentsStaticValue (pat : Pattern) (vals : List Nat)
  | extentsCount (n rank : Nat)

/-- the loop behind `extentsStaticValue` -/
def staticValuesMatch : Pattern → List Nat → Bool
  | some s :: ps, v :: vs => (v == s) && staticValuesMatch ps vs
  | none :: ps, _ :: vs => staticValuesMatch ps vs
  | _, _ => true

/-- the condition the code evaluates; `false` = the check fires (abort / assertion failure) -/
def DebugCheck.passes : DebugCheck → Bool
  | .strideToLeft es ss => !walkLeft es ss
  | .strideToRight es ss => !walkRight es ss
  | .paddedToUnpadded src dst =>
    match dst, src with
    | .left, .lpad es ps => !(decide (es.length > 1)) || lpadStride ps es lpadIdx == es.getD 0 0
    | .right, .rpad es ps => !(decide (es.length > 1)) || rpadStride ps es (rpadIdx es.length) == es.getD (es.length - 1) 0
    | _, _ => true
  | .paddedCtorPadding sp pv => match sp with | none => true | some p => p == pv
  | .paddedStrideRank r rank => decide (r < rank)
  | .mdarrayAdopt span n => decide (span ≤ n)
  | .extentsStaticValue pat vals => staticValuesMatch pat vals
  | .extentsCount n rank => n == rank

/-- the documented precondition of the operation (what "valid input" means for it) -/
def DebugCheck.Pre : DebugCheck → Prop
  | .strideToLeft es ss => es.length = ss.length ∧ ss = leftStrides es
  | .strideToRight es ss => es.length = ss.length ∧ ss = rightStrides es
  | .paddedToUnpadded src dst => ConvPre src dst
  | .paddedCtorPadding sp pv => ∀ p, sp = some p → p = pv
  | .paddedStrideRank r rank => r < rank
  | .mdarrayAdopt span n => span ≤ n
  | .extentsStaticValue pat vals => ∀ (k s : Nat), (pat : List (Option Nat))[k]? = some (some s) → ∀ v, vals[k]? = some v → v = s
  | .extentsCount n rank => n = rank

theorem staticValuesMatch_of_pre (pat : Pattern) (vals : List Nat)
    (h : ∀ (k s : Nat), (pat : List (Option Nat))[k]? = some (some s) → ∀ v, vals[k]? = some v → v = s) :
    staticValuesMatch pat vals = true := by
  fun_induction staticValuesMatch pat vals with
  | case1 s ps v vs ih =>
    exact Bool.and_eq_true_iff.mpr ⟨beq_iff_eq.mpr (h 0 s rfl v rfl), ih fun k s' hk w hw => h (k + 1) s' hk w hw⟩
  | case2 ps _ vs ih => exact ih fun k s hk w hw => h (k + 1) s hk w hw
  | case3 => rfl

theorem guarded_beq {p : Prop} [Decidable p] {a b : Nat} (h : p → a = b) : (!(decide p) || a == b) = true := by
  by_cases hp : p <;> simp [hp, h]

/-- **C15 (debug checks are silent on valid input)**: under the documented precondition of the
    operation, no debug-only check of the library fires. -/
theorem C15_debug_checks_silent (c : DebugCheck) (h : c.Pre) : c.passes = true := by
  cases c with
  | strideToLeft es ss => obtain ⟨_, rfl⟩ := h; exact congrArg not (C20_canonical_passes es).1
  | strideToRight es ss => obtain ⟨_, rfl⟩ := h; exact congrArg not (C20_canonical_passes es).2
  | paddedToUnpadded src dst =>
    -- the check exists in two constructors only; there it is `ConvPre` as a Boolean
    dsimp only [DebugCheck.passes]
    split
    · exact guarded_beq h
    · exact guarded_beq h
    · rfl
  | paddedCtorPadding sp pv =>
    cases sp with
    | none => rfl
    | some p => exact beq_iff_eq.mpr (h p rfl)
  | paddedStrideRank r rank => exact decide_eq_true h
  | mdarrayAdopt span n => exact decide_eq_true h
  | extentsStaticValue pat vals => exact staticValuesMatch_of_pre pat vals h
  | extentsCount n rank => exact beq_iff_eq.mpr h

/-- the stride walks are sharp: they fire on every input that violates the precondition (C20) -/
theorem C15_stride_checks_sharp (es ss : List Nat) (hl : es.length = ss.length) :
    ((DebugCheck.strideToLeft es ss).passes = true ↔ ss = leftStrides es) ∧
    ((DebugCheck.strideToRight es ss).passes = true ↔ ss = rightStrides es) := by
  have flip {b : Bool} {P : Prop} [Decidable P] (h : b = true ↔ ¬ P) : (!b) = true ↔ P := by
    rw [Bool.not_eq_true', ← Bool.not_eq_true, h, Decidable.not_not]
  exact ⟨flip (C20_left es ss hl), flip (C20_right es ss hl)⟩

-- non-vacuity: each precondition is satisfiable on a non-trivial value, and each check can fire
example : (DebugCheck.strideToLeft [2, 3, 4] [1, 2, 6]).Pre ∧ (DebugCheck.strideToLeft [2, 3, 4] [1, 2, 7]).passes = false :=
  ⟨⟨rfl, by decide +kernel⟩, by decide +kernel⟩
example : (DebugCheck.paddedToUnpadded (.lpad [8, 2, 3] 8) .left).Pre ∧
    (DebugCheck.paddedToUnpadded (.lpad [5, 2, 3] 8) .left).passes = false :=
  ⟨by show ConvPre (.lpad [8, 2, 3] 8) .left; decide +kernel, by decide +kernel⟩
example : (DebugCheck.extentsStaticValue [none, some 3, none] [5, 3, 7]).passes = true ∧
    (DebugCheck.extentsStaticValue [none, some 3, none] [5, 4, 7]).passes = false ∧
    (DebugCheck.paddedCtorPadding (some 4) 8).passes = false ∧ (DebugCheck.mdarrayAdopt 12 11).passes = false := by decide +kernel

end Mdspan
