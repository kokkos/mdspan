import MdspanVerif.Lemmas.Covers
import MdspanVerif.Props.C05
/-!
# C07 — is_unique / is_exhaustive / is_strided never overstate

For layout_stride the theorems assume a non-empty index space: none relates what the two
`span == 0` branches of `isExhStride` return to `Covers`.
-/
namespace Mdspan

/-- every offset below `required_span_size()` is the image of a multi-index -/
def Layout.Covers (L : Layout) : Prop :=
  ∀ o, o < L.span → ∃ is, InB is L.extents ∧ L.offset is = o

/-- first loop of the zero-span branch: `r_largest`, the first index of a largest stride -/
def argmaxStride : Nat → Nat → Nat → List Nat → Nat   -- (best index, best value, current index, rest)
  | best, _, _, [] => best
  | best, bv, r, s :: ss => if s > bv then argmaxStride r s (r + 1) ss else argmaxStride best bv (r + 1) ss

/-- second loop: some extent other than the `rl`-th is zero -/
def zeroOtherThan (rl : Nat) : Nat → List Nat → Bool
  | _, [] => false
  | r, e :: es => (e == 0 && r != rl) || zeroOtherThan rl (r + 1) es

/-- `layout_stride::is_exhaustive`, all four branches, in the order of the code -/
def isExhStride (es ss : List Nat) : Bool :=
  match es, ss with
  | [], _ => true
  | es, ss =>
    let span := spanStride es ss
    if span == 0 then
      match es, ss with
      | [_], [s] => s == 1
      | _, s0 :: ss' => !(zeroOtherThan (argmaxStride 0 s0 1 ss') 0 es)
      | _, [] => true  -- not reached when there are as many strides as extents
    else span == prod es

def Layout.isExhaustive : Layout → Bool
  | .left _ | .right _ => true
  | .stride es ss => isExhStride es ss
  | .lpad es ps => es.length < 2 || es.head? == some ps
  | .rpad es ps => es.length < 2 || es.getLast? == some ps

def Layout.isUnique : Layout → Bool := fun _ => true
def Layout.isStrided : Layout → Bool := fun _ => true

theorem Layout.covers_iff (L : Layout) (hv : L.Valid) (hpos : ∀ e ∈ L.extents, 0 < e) :
    L.Covers ↔ L.span = prod L.extents := by
  have hvs := valid_strides L hv hpos
  have hge := span_ge L hv hpos
  have hle := hvs.prod_le hpos
  have hiff := covers_iff_span_eq_prod _ _ hvs hpos
  have hoff : ∀ is, InB is L.extents → L.offset is = dot is L.strides :=
    fun is hb => offset_eq_dot L is (inB_length _ _ hb)
  constructor
  · intro hc
    -- the offset `span - 1` is taken, so the span is exactly `1 + Σ (e-1)·s`
    have hs : L.span = spanM1 (List.zip L.extents L.strides) + 1 := by
      obtain ⟨is, hb, ho⟩ := hc (L.span - 1)
        (Nat.sub_lt (Nat.lt_of_lt_of_le (Nat.succ_pos _) hge) Nat.one_pos)
      have := offset_le_spanM1 L hvs.1.symm is hb
      omega
    refine hs.trans (hiff.mp fun o ho => ?_)
    obtain ⟨is, hb, h⟩ := hc o (hs ▸ Nat.lt_add_one_of_le ho)
    exact ⟨is, hb, hoff is hb ▸ h⟩
  · intro h o ho
    have hs : L.span = spanM1 (List.zip L.extents L.strides) + 1 := Nat.le_antisymm (h ▸ hle) hge
    obtain ⟨is, hb, hd⟩ := hiff.mpr (hs.symm.trans h) o (Nat.le_of_lt_add_one (hs ▸ ho))
    exact ⟨is, hb, (hoff is hb).trans hd⟩

/-- without the hypothesis on the extents: an empty index space has span 0 -/
theorem Layout.covers_of_span_eq_prod (L : Layout) (hv : L.Valid) (h : L.span = prod L.extents) :
    L.Covers := by
  by_cases h0 : 0 ∈ L.extents
  · intro o ho; rw [h, (prod_eq_zero_iff _).mpr h0] at ho; exact absurd ho (Nat.not_lt_zero o)
  · exact (L.covers_iff hv (pos_of_not_mem_zero _ h0)).mpr h

theorem Layout.isExhaustive_iff_span_eq_prod (L : Layout) (hpos : ∀ e ∈ L.extents, 0 < e) :
    L.isExhaustive = true ↔ L.span = prod L.extents := by
  cases L with
  | left es => exact iff_of_true rfl rfl
  | right es => exact iff_of_true rfl rfl
  | stride es ss =>
    -- the span is positive, which selects the last branch
    have hne : (spanStride es ss == 0) = false := by
      rw [spanStride_pos es ss hpos]; rfl
    have hex : (Layout.stride es ss).isExhaustive = (spanStride es ss == prod es) := by
      cases es with
      | nil => rfl
      | cons e es => simp only [Layout.isExhaustive, isExhStride, hne]; rfl
    rw [hex, beq_iff_eq]; rfl
  | lpad es ps =>
    rcases es with _ | ⟨e, _ | ⟨e', es⟩⟩
    · exact iff_of_true rfl rfl
    · exact iff_of_true rfl (Nat.mul_one e).symm
    · -- the span is `ps * Π rest`, the index space has `e * Π rest` elements
      have hpp := prod_pos (e' :: es) (List.forall_mem_cons.mp hpos).2
      have hex : (Layout.lpad (e :: e' :: es) ps).isExhaustive = true ↔ e = ps := by
        show (some e == some ps) = true ↔ _
        rw [beq_iff_eq, Option.some.injEq]
      exact hex.trans (eq_comm.trans (Nat.mul_right_cancel_iff hpp).symm)
  | rpad es ps =>
    rcases es with _ | ⟨e, _ | ⟨e', es⟩⟩
    · exact iff_of_true rfl rfl
    · exact iff_of_true rfl (Nat.mul_one e).symm
    · -- with `e :: e' :: es = init ++ [el]` the span is `Π init * ps`, the index space has
      -- `Π init * el` elements
      have hex : (Layout.rpad (e :: e' :: es) ps).isExhaustive = true ↔
          (e :: e' :: es).getLast? = some ps := beq_iff_eq (a := (e :: e' :: es).getLast?)
      obtain ⟨init, hinit⟩ :=
        List.getLast?_eq_some_iff.mp (List.getLast?_cons (a := e) (l := e' :: es))
      have hpi := prod_pos init fun x hx => hpos x (hinit ▸ List.mem_append_left _ hx)
      rw [hex]
      show _ ↔ (Layout.rpad (e :: e' :: es) ps).span = prod (e :: e' :: es)
      rw [C05_rpad_upper, hinit, replaceLast_concat, prod_concat, prod_concat,
        List.getLast?_concat, Option.some.injEq]
      exact eq_comm.trans (Nat.mul_left_cancel_iff hpi).symm

/-- **C07, every layout**: for a valid mapping with a non-empty index space `is_exhaustive()`
    is true exactly when the mapping covers its whole span. -/
theorem Layout.exhaustive_iff_covers (L : Layout) (hv : L.Valid) (hpos : ∀ e ∈ L.extents, 0 < e) :
    L.isExhaustive = true ↔ L.Covers :=
  (L.isExhaustive_iff_span_eq_prod hpos).trans (L.covers_iff hv hpos).symm

/-- **C07, layout_stride**: the instance of `Layout.exhaustive_iff_covers` -/
theorem C07_stride (es ss : List Nat) (hv : ValidStrides es ss) (hpos : ∀ e ∈ es, 0 < e) :
    (Layout.stride es ss).isExhaustive = true ↔ (Layout.stride es ss).Covers :=
  (Layout.stride es ss).exhaustive_iff_covers hv hpos

/-- **C07, layout_left / layout_right** are always exhaustive -/
theorem C07_right (es : List Nat) : (Layout.right es).Covers :=
  (Layout.right es).covers_of_span_eq_prod trivial rfl

theorem C07_left (es : List Nat) : (Layout.left es).Covers :=
  (Layout.left es).covers_of_span_eq_prod trivial rfl

/-! `is_strided()` is true and the offset is Σ i_r·stride(r); `is_unique()` is true and the
    mapping is injective (C01). -/
theorem C07_strided (L : Layout) (is : List Nat) (h : is.length = L.extents.length) :
    L.isStrided = true ∧ L.offset is = dot is L.strides := ⟨rfl, offset_eq_dot L is h⟩
theorem C07_unique (L : Layout) (hv : L.Valid) (is js : List Nat) (hi : InB is L.extents)
    (hj : InB js L.extents) (h : L.offset is = L.offset js) : L.isUnique = true ∧ is = js :=
  ⟨rfl, C01_inj L hv is js hi hj h⟩

end Mdspan
