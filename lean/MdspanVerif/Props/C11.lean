import MdspanVerif.Model.View
/-!
# C11 — construction, copy, move, assignment and swap preserve the view, for every way the
three components can be stored
-/
namespace Mdspan

/-! ### `Pool.at` and `Pool.put` -/

theorem Pool.at_map {α β : Type} (f : α → β) (p : List (Option α)) (i : Nat) :
    Pool.at (p.map (Option.map f)) i = (Pool.at p i).map f := by
  unfold Pool.at
  simp only [List.getElem?_map]
  cases p[i]? <;> rfl

theorem Pool.put_map {α β : Type} (f : α → β) (p : List (Option α)) (i : Nat) (v : Option α) :
    (Pool.put p i v).map (Option.map f) = Pool.put (p.map (Option.map f)) i (v.map f) :=
  List.map_set

theorem Pool.length_put {α : Type} (p : List (Option α)) (i : Nat) (x : Option α) :
    (Pool.put p i x).length = p.length := List.length_set

/-- a `put` outside the pool is lost -/
theorem Pool.at_put {α : Type} (p : List (Option α)) (i k : Nat) (x : Option α) :
    Pool.at (Pool.put p i x) k = if k = i ∧ i < p.length then x else Pool.at p k := by
  unfold Pool.at Pool.put
  rw [List.getElem?_set]
  by_cases hk : i = k
  · subst hk
    by_cases hi : i < p.length <;> simp [hi]
  · simp [hk, Ne.symm hk]

section
variable {P Q : Type → Type → Type} {H M A : Type} [PairLike Q M A] [PairLike P H (Q M A)]

/-- a constructed view reports exactly the components supplied -/
theorem C11_make_abs (h : H) (m : M) (a : A) :
    (CView.make (P := P) (Q := Q) h m a).abs = ⟨h, m, a⟩ := by
  simp [CView.abs, CView.make, CView.ptr, CView.mapping, CView.accessor, PairLike.first_mk, PairLike.second_mk]

theorem CView.make_eta (v : CView P Q H M A) : CView.make (P := P) (Q := Q) v.ptr v.mapping v.accessor = v := by
  unfold CView.make CView.ptr CView.mapping CView.accessor
  rw [PairLike.eta (P := Q), PairLike.eta (P := P)]

/-- **C11 (one step)**: every operation on the stored pairs is the operation on the triples -/
theorem C11_step (p : CPool P Q H M A) (op : POp H M A) :
    (CPool.step p op).abs = Pool.step p.abs op := by
  cases op with
  | cons i v =>
    simp only [CPool.step, Pool.step, CPool.abs, Pool.put_map, Option.map, C11_make_abs]
  | copy i j | move i j | assign i j | moveAssign i j =>
    simp only [CPool.step, Pool.step, CPool.abs, Pool.put_map, Pool.at_map]
  | swap i j =>
    simp only [CPool.step, Pool.step, CPool.abs]
    split
    · -- both views present: the member-wise swap rebuilds each view from the other's components
      next x y hi hj =>
      simp only [CView.swapped, CView.make_eta, Pool.put_map, Pool.at_map, hi, hj]
    · simp only [Pool.put_map, Pool.at_map]

/-- **C11 (histories)**: for every sequence of operations the stored pool, read through the
    observers, is the pool of triples — so `data_handle()`, `mapping()`, `accessor()` of every
    view equal (the conversion of) what was supplied, whatever specialisation stores them -/
theorem C11_run (p : CPool P Q H M A) (ops : List (POp H M A)) :
    (ops.foldl CPool.step p).abs = Pool.run p.abs ops := by
  induction ops generalizing p with
  | nil => rfl
  | cons op ops ih => exact (ih _).trans (congrArg (Pool.run · ops) (C11_step p op))
end

/-- swap exchanges exactly the two views and leaves every other slot alone -/
theorem C11_swap_spec {H M A : Type} (p : Pool H M A) (i j k : Nat) (hi : i < p.length) (hj : j < p.length) :
    Pool.at (Pool.step p (.swap i j)) k =
      if k = j then Pool.at p i else if k = i then Pool.at p j else Pool.at p k := by
  simp only [Pool.step, Pool.at_put, Pool.length_put, hi, hj, and_true]

/-- assignment makes the target equal to the source and leaves the source unchanged; `Pool.step`
    has one arm for `copy`, `move`, `assign` and `moveAssign`, so the same holds of the other three -/
theorem C11_assign_spec {H M A : Type} (p : Pool H M A) (i j : Nat) (hi : i < p.length) :
    Pool.at (Pool.step p (.assign i j)) i = Pool.at p j ∧
    (i ≠ j → Pool.at (Pool.step p (.assign i j)) j = Pool.at p j) := by
  simp only [Pool.step, Pool.at_put, hi, and_true, if_true, true_and]
  exact fun h => if_neg (Ne.symm h)

/-! three of the sixteen storage combinations (non-vacuity of the class constraints) -/
instance : EmptyT Unit := ⟨(), fun _ => rfl⟩
instance {α β : Type} : EmptyT (PairEE α β) := ⟨{}, fun _ => rfl⟩
example : (CView.make (P := PairNE) (Q := PairEE) (5 : Nat) () ()).abs = (⟨5, (), ()⟩ : MdsView Nat Unit Unit) := C11_make_abs _ _ _
example : (CView.make (P := PairNN) (Q := PairEN) (5 : Nat) () (7 : Nat)).abs = (⟨5, (), 7⟩ : MdsView Nat Unit Nat) := C11_make_abs _ _ _
example : (CView.make (P := PairEN) (Q := PairNE) () (3 : Nat) ()).abs = (⟨(), 3, ()⟩ : MdsView Unit Nat Unit) := C11_make_abs _ _ _

end Mdspan
