import MdspanVerif.Props.C14e
import MdspanVerif.Props.C14f
import MdspanVerif.Model.LayoutI
/-!
# C14 — the umbrella: the executable admissibility predicate implies the refinement theorems

`Layout.admB T L` is what the driver prints as `adm` for every op line.  `adm = 1` is sufficient for every
member function of the mapping (`operator()`, `required_span_size()`, `stride(r)`, `strides()` as the
table of `stride(r)`, `is_exhaustive()`) to execute without UB in index type `T` and to return the
mathematical value.  The `strides()` loops of the padded layouts (`lpadStridesArrM`, `rpadStridesArrM`)
have their theorems in C14e under `lpadSpan1` / `rpadSpan1`, which `span1_lpad` / `span1_rpad` relate to
`admB`; no theorem here states them under `admB`.
-/
namespace Mdspan

/-- a pure mapping as a run-time value of the machine layer -/
def Layout.toI : Layout → LayoutI
  | .left es => .left (Mdspan.toI es)
  | .right es => .right (Mdspan.toI es)
  | .stride es ss => .stride (Mdspan.toI es) (Mdspan.toI ss)
  | .lpad es ps => .lpad (Mdspan.toI es) (ps : Int)
  | .rpad es ps => .rpad (Mdspan.toI es) (ps : Int)

theorem Layout.toI_extents (L : Layout) : L.toI.extents = Mdspan.toI L.extents := by
  cases L <;> rfl

/-! ### `span1` in the forms used by the refinement theorems -/

theorem span1_lpad (es : List Nat) (ps : Nat) : (Layout.lpad es ps).span1 = lpadSpan1 ps es := by
  rcases es with _ | ⟨e, _ | ⟨e', es⟩⟩
  · rfl
  · rfl
  · exact congrArg (one0 ps * ·) (prod_map_one0 (e' :: es))

theorem span1_rpad (es : List Nat) (ps : Nat) : (Layout.rpad es ps).span1 = rpadSpan1 ps es := by
  rcases es with _ | ⟨e, _ | ⟨e', es⟩⟩
  · rfl
  · rfl
  · show rpadSpan (one0 ps) (one0 e :: one0 e' :: es.map one0) = prod1 (replaceLast ps (e :: e' :: es))
    rw [rpadSpan_eq, ← prod_map_one0, ← replaceLast_map]
    rfl

theorem span_le_span1 (L : Layout) (hl : L.strides.length = L.extents.length) : L.span ≤ L.span1 := by
  cases L with
  | left es => exact span1_left es ▸ prod_le_prod1 es
  | right es => exact span1_right es ▸ prod_le_prod1 es
  | stride es ss =>
    rw [span1_stride es ss]
    by_cases h0 : 0 ∈ es
    · rw [C05_stride_zero es ss hl.symm h0]
      exact Nat.zero_le _
    · exact Nat.le_of_eq (spanStrideGo_pos 1 es ss (pos_of_not_mem_zero es h0))
  | lpad es ps => exact span1_lpad es ps ▸ lpadSpan_le_lpadSpan1 ps es
  | rpad es ps => exact span1_rpad es ps ▸ rpadSpan_le_rpadSpan1 ps es

/-! ### `validB` in the forms used by the refinement theorems -/

theorem validB_strides_length (L : Layout) (hv : L.validB = true) : L.strides.length = L.extents.length :=
  strides_length_of fun es ss e => by subst e; exact (validB_stride_elim es ss hv).1.symm

theorem validB_lpad (es : List Nat) (ps : Nat) (h : (Layout.lpad es ps).validB = true) :
    PadOKLeft ps es := by
  refine ((Bool.or_eq_true _ _).mp h).imp of_decide_eq_true fun h => ?_
  have h := of_decide_eq_true h
  cases es with
  | nil => trivial
  | cons e es => exact ⟨h, leL_refl es⟩

theorem getLast?_cons_eq {α : Type} (a : α) (l : List α) (d : α) : (a :: l).getLast? = some ((a :: l).getLastD d) := by
  rw [List.getLast?_cons, List.getLastD_cons, List.getLastD_eq_getLast?]

theorem validB_rpad (es : List Nat) (ps : Nat) (h : (Layout.rpad es ps).validB = true) :
    PadOKRight ps es := by
  refine ((Bool.or_eq_true _ _).mp h).imp of_decide_eq_true fun h => ?_
  have h := of_decide_eq_true h
  cases es with
  | nil => trivial
  | cons e es => exact (leL_replaceLast_iff (getLast?_cons_eq e es 0)).mpr h

theorem validB_valid (L : Layout) (h : L.validB = true) (hpos : ∀ e ∈ L.extents, 0 < e) : L.Valid := by
  cases L with
  | left es => trivial
  | right es => trivial
  | stride es ss =>
    exact map_one0_of_pos es hpos ▸ (validB_stride_elim es ss h).2.2
  | lpad es ps => exact validB_lpad es ps h
  | rpad es ps => exact validB_rpad es ps h

/-! ### what admissibility gives -/

theorem admB_strides_length (T : ITy) (L : Layout) (h : L.admB T = true) :
    L.strides.length = L.extents.length :=
  validB_strides_length L (admB_elim T L h).1

theorem admB_span_le (T : ITy) (L : Layout) (h : L.admB T = true) : ((L.span : Nat) : Int) ≤ T.hi :=
  natCast_le_of_le (span_le_span1 L (admB_strides_length T L h)) (admB_elim T L h).2.1

theorem admB_offset_lt (T : ITy) (L : Layout) (h : L.admB T = true) {is : List Nat}
    (hb : InB is L.extents) : L.offset is < L.span :=
  C01_range L (validB_valid L (admB_elim T L h).1 (inB_pos _ _ hb)) is hb

/-! ### the umbrella theorems -/

/-- **C14 umbrella, operator()**: if the driver's predicate holds and the index is inside the
    extents, the call executes no UB in `T` and returns the mathematical offset. -/
theorem C14_adm_offset (T : ITy) (L : Layout) (is : List Nat) (h : L.admB T = true)
    (hb : InB is L.extents) :
    (L.toI).offM T (toI is) = .ok ((L.offset is : Nat) : Int) := by
  obtain ⟨hv, hsp, hre, hrs⟩ := admB_elim T L h
  -- all but layout_stride ask for the span itself to be representable
  have hspan := admB_span_le T L h
  cases L with
  | left es => exact C14_left_offset T es is hb hre hspan
  | right es => exact C14_right_offset T es is hb hre hspan
  | stride es ss =>
    exact C14_stride_offset T es ss is hb (validB_stride_elim es ss hv).1 hre hrs (span1_stride es ss ▸ hsp)
  | lpad es ps => exact C14_lpad_offset T ps es is hb (validB_lpad es ps hv) hre hspan
  | rpad es ps => exact C14_rpad_offset T ps es is hb (validB_rpad es ps hv) hre hspan

/-- **C14 umbrella, required_span_size()**: zero extents allowed -/
theorem C14_adm_span (T : ITy) (L : Layout) (h : L.admB T = true) :
    (L.toI).spanM T = .ok ((L.span : Nat) : Int) := by
  obtain ⟨hv, hsp, hre, hrs⟩ := admB_elim T L h
  cases L with
  | left es => exact C14_span_lr T es hre (span1_left es ▸ hsp)
  | right es => exact C14_span_lr T es hre (span1_right es ▸ hsp)
  | stride es ss =>
    exact C14_span_stride T es ss (validB_stride_elim es ss hv).1 hre hrs (span1_stride es ss ▸ hsp)
  | lpad es ps => exact C14_lpad_span T ps es hre (span1_lpad es ps ▸ hsp)
  | rpad es ps => exact C14_rpad_span T ps es hre (span1_rpad es ps ▸ hsp)

/-- **C14 umbrella, stride(r)** -/
theorem C14_adm_stride (T : ITy) (L : Layout) (r : Nat) (hr : r < L.extents.length)
    (h : L.admB T = true) :
    (L.toI).strideM T r = .ok ((L.strides.getD r 0 : Nat) : Int) := by
  obtain ⟨hv, hsp, hre, hrs⟩ := admB_elim T L h
  cases L with
  | left es =>
    rw [Layout.strides, List.getD_eq_getElem?_getD, leftStride_eq es r hr, Option.getD_some]
    exact C14_left_stride T es r hre (span1_left es ▸ hsp)
  | right es =>
    rw [Layout.strides, List.getD_eq_getElem?_getD, rightStride_eq es r hr, Option.getD_some]
    exact C14_right_stride T es r hre (span1_right es ▸ hsp)
  | stride es ss => exact congrArg Except.ok (toI_getD ss r)
  | lpad es ps =>
    rw [Layout.strides, List.getD_eq_getElem?_getD, lpadStride_eq ps es r hr, Option.getD_some]
    exact C14_lpad_stride T ps es r hr hre (span1_lpad es ps ▸ hsp)
  | rpad es ps =>
    rw [Layout.strides, List.getD_eq_getElem?_getD, rpadStride_eq ps es r hr, Option.getD_some]
    exact C14_rpad_stride T ps es r hr hre (span1_rpad es ps ▸ hsp)

/-- `is_exhaustive()` of the padded mappings does no arithmetic -/
theorem padIsExh_lpad (es : List Nat) (ps : Nat) :
    padIsExh (toI es).length ((toI es).headD 0) ps = (Layout.lpad es ps).isExhaustive := by
  cases es with
  | nil => rfl
  | cons e es =>
    show (decide ((toI (e :: es)).length < 2) || (e : Int) == (ps : Int)) = (decide ((e :: es).length < 2) || e == ps)
    rw [toI_length, natCast_beq]

theorem padIsExh_rpad (es : List Nat) (ps : Nat) :
    padIsExh (toI es).length ((toI es).getLastD 0) ps = (Layout.rpad es ps).isExhaustive := by
  cases es with
  | nil => rfl
  | cons e es =>
    show (decide ((toI (e :: es)).length < 2) || (toI (e :: es)).getLastD (Int.ofNat 0) == (ps : Int)) =
      (decide ((e :: es).length < 2) || (e :: es).getLast? == some ps)
    rw [toI_length, toI, List.getLastD_map, getLast?_cons_eq e es 0]
    exact congrArg (_ || ·) (natCast_beq _ ps)

/-- **C14 umbrella, is_exhaustive()**: also for empty index spaces -/
theorem C14_adm_exh (T : ITy) (L : Layout) (h : L.admB T = true) :
    (L.toI).exhM T = .ok L.isExhaustive := by
  cases L with
  | left es => rfl
  | right es => rfl
  | stride es ss =>
    obtain ⟨hv, hsp, hre, hrs⟩ := admB_elim T _ h
    obtain ⟨hl, _, hval⟩ := validB_stride_elim es ss hv
    rw [span1_stride es ss] at hsp
    -- with zero extents counted as one `validB` is the stride precondition: the size does not exceed the measure
    have hsz := hval.prod_le (map_one0_pos es)
    rw [prod_map_one0, spanM1_zip_map_one0, Nat.add_comm] at hsz
    exact C14_is_exhaustive' T es ss hl hre hrs hsp (natCast_le_of_le hsz hsp)
  | lpad es ps => exact congrArg Except.ok (padIsExh_lpad es ps)
  | rpad es ps => exact congrArg Except.ok (padIsExh_rpad es ps)

/-- all of `strides()` through `stride(r)`; `hlen` also follows from `h` (`admB_strides_length`) -/
theorem C14_adm_strides (T : ITy) (L : Layout) (hlen : L.strides.length = L.extents.length)
    (h : L.admB T = true) : (L.toI).stridesM T = .ok (toI L.strides) := by
  unfold LayoutI.stridesM
  rw [Layout.toI_extents, toI_length, ← hlen]
  exact (mapM_ok _ _ _ fun r hr => C14_adm_stride T L r (hlen ▸ List.mem_range.mp hr) h).trans
    (congrArg Except.ok (map_range_getD L.strides))

/-- the offsets delivered under `adm` are below the span delivered under `adm` (C01 through the
    machine layer): both values come out of the machine functions without UB -/
theorem C14_adm_offset_lt_span (T : ITy) (L : Layout) (is : List Nat) (h : L.admB T = true)
    (hb : InB is L.extents) :
    ∃ o s : Nat, (L.toI).offM T (toI is) = .ok (o : Int) ∧ (L.toI).spanM T = .ok (s : Int) ∧
      o < s ∧ (s : Int) ≤ T.hi :=
  ⟨L.offset is, L.span, C14_adm_offset T L is h hb, C14_adm_span T L h, admB_offset_lt T L h hb,
    admB_span_le T L h⟩

/-! ### `admB` on boundary inputs -/

example : (Layout.right [127]).admB .i8 = true := by decide +kernel
example : (Layout.right [128]).admB .i8 = false := by decide +kernel
example : (Layout.left [127, 0, 1]).admB .i8 = true := by decide +kernel
/-- zeros are counted as one: 16·0·8 has span 0 but is not admissible for `signed char` -/
example : (Layout.left [16, 0, 8]).admB .i8 = false ∧ (Layout.left [16, 0, 8]).span = 0 := by decide +kernel
example : (Layout.lpad [100, 1] 100).admB .i8 = true := by decide +kernel
example : (Layout.lpad [100, 1] 127).admB .i8 = true ∧ (Layout.lpad [100, 2] 100).admB .i8 = false := by decide +kernel
/-- a padded stride below the extent it pads is rejected by `validB` -/
example : (Layout.lpad [100, 1] 99).admB .i8 = false := by decide +kernel
example : (Layout.rpad [1, 100] 127).admB .i8 = true ∧ (Layout.rpad [1, 100] 99).admB .i8 = false := by decide +kernel
/-- a stride layout whose span is exactly 32767 = 1 + 2·16383 -/
example : (Layout.stride [3] [16383]).admB .i16 = true ∧ (Layout.stride [3] [16383]).span = 32767 := by decide +kernel
example : (Layout.stride [2, 2] [1, 32765]).admB .i16 = true ∧
    (Layout.stride [2, 2] [1, 32765]).span = 32767 ∧
    (Layout.stride [2, 2] [1, 32766]).admB .i16 = false := by decide +kernel
/-- overlapping strides are rejected by `validB` although the span fits -/
example : (Layout.stride [2, 2] [1, 1]).admB .i16 = false := by decide +kernel

example : (Layout.stride [2, 2] [1, 32765]).toI.spanM .i16 = .ok 32767 ∧
    (Layout.stride [2, 2] [1, 32765]).toI.offM .i16 (toI [1, 1]) = .ok 32766 ∧
    (Layout.lpad [100, 1] 100).toI.spanM .i8 = .ok 100 ∧
    (Layout.right [127]).toI.offM .i8 (toI [126]) = .ok 126 := by decide +kernel

end Mdspan
