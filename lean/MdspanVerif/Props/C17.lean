import MdspanVerif.Model.Types2
/-!
# C17 — deduction guides, `dextents`, member types (type-level rules)

The class-template-argument-deduction results and the member types are compile-time facts about
C++ types; the model states the rules on descriptors and proves the parts that are computed by
recursion (`__make_dextents`) or that relate two rules (`size_type`).
-/
namespace Mdspan

/-- `detail::__make_dextents<I, Rank, extents<I, Pack...>>`: prepends `dynamic_extent`, `Rank` times -/
def makeDextentsGo : Nat → Pattern → Pattern
  | 0, pack => pack
  | n + 1, pack => makeDextentsGo n (none :: pack)
/-- `dextents<I, Rank>` -/
def makeDextents (rank : Nat) : Pattern := makeDextentsGo rank []

theorem makeDextentsGo_eq : ∀ (n : Nat) (pack : Pattern), makeDextentsGo n pack = List.replicate n none ++ pack := by
  intro n
  induction n with
  | zero => exact fun _ => rfl
  | succ n ih =>
    intro pack
    rw [makeDextentsGo, ih, List.replicate_succ', List.append_assoc]
    rfl

/-- **C17 (`dextents`)**: `dextents<I, N>` is `extents<I, dynamic_extent × N>`, for every `N` -/
theorem C17_dextents (n : Nat) : makeDextents n = List.replicate n none :=
  (makeDextentsGo_eq n []).trans (List.append_nil _)
theorem C17_dextents_rank (n : Nat) : (makeDextents n).length = n ∧ rankDyn (makeDextents n) = n := by
  rw [C17_dextents]; simp [rankDyn]

/-! The deduction guides as functions of what the arguments' types say: the deduced extents type
is `(index type, pattern)`, `u64` standing for `size_t`. -/

def ctadExtentsFromInts (nargs : Nat) : ExtT := ⟨.u64, List.replicate nargs none⟩       -- extents(ints...)
def ctadMdspanFromInts (nargs : Nat) : ExtT := ⟨.u64, makeDextents nargs⟩              -- mdspan(ptr, ints...)
def ctadMdspanFromArray (n : Nat) : ExtT := ⟨.u64, makeDextents n⟩                     -- mdspan(ptr, array<T,N>) / span
def ctadMdspanFromPointer : ExtT := ⟨.u64, []⟩                                         -- mdspan(ptr): rank 0
def ctadMdspanFromCArray (n : Nat) : ExtT := ⟨.u64, [some n]⟩                           -- mdspan(T(&)[N])
def ctadMdspanFromExtents (e : ExtT) : ExtT := e                                        -- mdspan(ptr, extents)
def ctadMdspanFromMapping (m : MapT) : MapT := m                                        -- mdspan(ptr, mapping): extents and layout of the mapping

/-- **C17 (CTAD)**: `extents(ints...)` and `mdspan(ptr, ints...)` deduce `dextents<size_t, N>` -/
theorem C17_ctad_ints (n : Nat) :
    ctadExtentsFromInts n = ⟨.u64, List.replicate n none⟩ ∧ ctadMdspanFromInts n = ctadExtentsFromInts n ∧
    (ctadMdspanFromInts n).pat.length = n :=
  ⟨rfl, congrArg (ExtT.mk .u64) (C17_dextents n), (C17_dextents_rank n).1⟩

/-- `size_type` is the unsigned counterpart of `index_type`: same width, unsigned, idempotent -/
theorem C17_size_type (T : ITy) :
    T.toUnsigned.bits = T.bits ∧ T.toUnsigned.sgn = false ∧ T.toUnsigned.toUnsigned = T.toUnsigned ∧
    (T.sgn = false → T.toUnsigned = T) := by
  cases T <;> decide +kernel
/-- every non-negative `index_type` value is a `size_type` value -/
theorem C17_size_type_holds (T : ITy) : T.hi ≤ T.toUnsigned.hi := by cases T <;> decide +kernel

example : makeDextents 3 = [none, none, none] := by decide +kernel
example : ctadMdspanFromCArray 7 = ⟨.u64, [some 7]⟩ := rfl

end Mdspan
