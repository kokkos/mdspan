import MdspanVerif.Props.C11
/-!
# C11 — the converting constructor builds each component from the converted source component

`mdspan(const mdspan<OtherElementType, OtherExtents, OtherLayoutPolicy, OtherAccessor>& other)`
initialises `__members(other.__ptr_ref(), __map_acc_pair_t(other.__mapping_ref(), other.__accessor_ref()))`:
the heterogeneous `__compressed_pair(_T1Like&&, _T2Like&&)` constructor converts each argument into
the stored member type (also when the *source* component is an empty class: the target member is
constructed from it, not value-initialised).
-/
namespace Mdspan

section
variable {P Q P' Q' : Type → Type → Type} {H M A H' M' A' : Type}
variable [PairLike Q M A] [PairLike P H (Q M A)] [PairLike Q' M' A'] [PairLike P' H' (Q' M' A')]

/-- the converting constructor: every component goes through its own conversion -/
def CView.convert (cvH : H' → H) (cvM : M' → M) (cvA : A' → A) (v : CView P' Q' H' M' A') : CView P Q H M A :=
  CView.make (P := P) (Q := Q) (cvH v.ptr) (cvM v.mapping) (cvA v.accessor)

def MdsView.convert (cvH : H' → H) (cvM : M' → M) (cvA : A' → A) (v : MdsView H' M' A') : MdsView H M A :=
  ⟨cvH v.h, cvM v.m, cvA v.a⟩

/-- **C11 (conversion)**: whatever specialisations store the source and the target, the converted view
    reports the conversion of each of the three source components — in particular the accessor is
    `A(other.accessor())`, never `A()` -/
theorem C11_convert_abs (cvH : H' → H) (cvM : M' → M) (cvA : A' → A) (v : CView P' Q' H' M' A') :
    (CView.convert (P := P) (Q := Q) cvH cvM cvA v).abs = MdsView.convert cvH cvM cvA v.abs := by
  unfold CView.convert
  rw [C11_make_abs]
  rfl

/-- conversion with identity conversions is the copy -/
theorem C11_convert_id (v : CView P Q H M A) :
    CView.convert (P := P) (Q := Q) id id id v = v := by
  simp [CView.convert, CView.make_eta]
end

/-- non-vacuity: from an all-empty (mapping, accessor) pair into a stateful accessor built by the
    converting constructor `fun _ => 77` (the default-constructed accessor would be 0) -/
example : (CView.convert (P := PairNN) (Q := PairEN) (P' := PairNE) (Q' := PairEE) (H := Nat) (M := Unit) (A := Nat)
      (H' := Nat) (M' := Unit) (A' := Unit) id id (fun _ => 77) (CView.make 5 () ())).abs = ⟨5, (), 77⟩ := by
  rw [C11_convert_abs, C11_make_abs]; rfl

end Mdspan
