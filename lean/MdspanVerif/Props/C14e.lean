import MdspanVerif.Props.C14b
import MdspanVerif.Props.C14
import MdspanVerif.Props.C02
/-!
# C14 — `stride(r)` of layout_left / layout_right, and the padded layouts

A padded mapping of rank ≥ 2 works on its allocation extents (`replaceHead ps es`, `replaceLast ps es`):
`operator()` is a Horner loop over them, and `required_span_size`, `stride(r)`, `strides()` are running
products over part of them, started at the padded stride.  Last: the constructors' padded stride (`padStrideCtor`).
-/
namespace Mdspan

/-! ### layout_left::stride(r), layout_right::stride(r) -/

/-- **C14, layout_left::stride(i)** -/
theorem C14_left_stride (T : ITy) (es : List Nat) (i : Nat) (hrep : ∀ e ∈ es, (e : Int) ≤ T.hi)
    (hadm : ((prod1 es : Nat) : Int) ≤ T.hi) :
    leftStrideM T (toI es) i = .ok ((leftStride es i : Nat) : Int) := by
  rw [leftStrideM, toI_take]
  exact prodGoM_one T _ (natCast_le_of_le (prod1_sublist (List.take_sublist i es)) hadm)

/-- **C14, layout_right::stride(i)** (the loop runs from the last extent down to `i+1`) -/
theorem C14_right_stride (T : ITy) (es : List Nat) (i : Nat) (hrep : ∀ e ∈ es, (e : Int) ≤ T.hi)
    (hadm : ((prod1 es : Nat) : Int) ≤ T.hi) :
    rightStrideM T (toI es) i = .ok ((rightStride es i : Nat) : Int) := by
  rw [rightStrideM, toI_drop, toI_reverse, rightStride, ← prod_reverse]
  have hsub : prod1 (es.drop (i + 1)).reverse ≤ prod1 es :=
    Nat.le_trans (Nat.le_of_eq (prod1_reverse _)) (prod1_sublist (List.drop_sublist (i + 1) es))
  exact prodGoM_one T _ (natCast_le_of_le hsub hadm)

example : (∀ e ∈ [3, 0, 5, 4], ((e : Nat) : Int) ≤ ITy.i8.hi) ∧ ((prod1 [3, 0, 5, 4] : Nat) : Int) ≤ ITy.i8.hi := by
  decide +kernel
example : leftStrideM .i8 (toI [3, 0, 5, 4]) 3 = .ok 0 ∧ rightStrideM .i8 (toI [3, 0, 5, 4]) 1 = .ok 20 := by
  decide +kernel

/-! ### operator() of the padded layouts -/

/-- `lpadGoM` does not read `ps`: its caller has put the padded stride in place of the first extent -/
theorem lpadGoM_refines (T : ITy) (ps : Int) (es is : List Nat) (hb : InB is es)
    (hadm : ((prod es : Nat) : Int) ≤ T.hi) : lpadGoM T ps (toI es) (toI is) = .ok ((leftOff es is : Nat) : Int) := by
  induction is, es, hb using InB.induction with
  | nil => rfl
  | @cons i e is es hi hb ih =>
    rw [toI_cons, toI_cons, lpadGoM, ih (natCast_le_of_le (Nat.le_mul_of_pos_left _ (Nat.zero_lt_of_lt hi)) hadm), ok_bind]
    exact hornerStepPadM_ok T pure hi (natCast_le_of_le (leftOff_step_le e hb) hadm)

/-- **C14, layout_left_padded::operator()**: no UB and the exact offset whenever the index is
    inside the extents, the padded stride is not smaller than the extent it pads and the span
    `ps · Π_{r>0} e_r` is representable. -/
theorem C14_lpad_offset (T : ITy) (ps : Nat) (es is : List Nat) (hb : InB is es)
    (hpad : PadOKLeft ps es) (hrep : ∀ e ∈ es, (e : Int) ≤ T.hi)
    (hadm : ((lpadSpan ps es : Nat) : Int) ≤ T.hi) :
    lpadOffM T ps (toI es) (toI is) = .ok (((Layout.lpad es ps).offset is : Nat) : Int) := by
  cases is, es, hb using InB.induction with
  | nil => rfl
  | @cons i e is es hi hb =>
    cases is, es, hb using InB.induction with
    | nil => rfl
    | @cons i' e' is es hi' hb =>
      -- the loop runs over the allocation extents `ps :: e' :: es`, whose product is the span
      exact lpadGoM_refines T ps (ps :: e' :: es) _
        (inB_leL (i :: i' :: is) (e :: e' :: es) _ ⟨hi, hi', hb⟩ (hpad.resolve_left (by simp))) hadm

example : InB [5, 2, 3] [6, 3, 4] ∧ PadOKLeft 8 [6, 3, 4] ∧ (∀ e ∈ [6, 3, 4], ((e : Nat) : Int) ≤ ITy.i8.hi) ∧
    ((lpadSpan 8 [6, 3, 4] : Nat) : Int) ≤ ITy.i8.hi := by
  refine ⟨by decide +kernel, Or.inr (by simp [LeL, replaceHead]), by decide +kernel, by decide +kernel⟩
example : lpadOffM .i8 8 (toI [6, 3, 4]) (toI [5, 2, 3]) = .ok 93 := by decide +kernel
/-- `PadOKLeft` (an invariant of every constructed mapping) cannot be dropped: with a padded stride
    below the extent the span bound does not bound the offset (162 wraps in `signed char`) -/
example : ((lpadSpan 63 [100, 2] : Nat) : Int) ≤ ITy.i8.hi ∧
    lpadOffM .i8 63 (toI [100, 2]) (toI [99, 1]) = .ok (-94) := by decide +kernel

theorem rpadGoM_refines (T : ITy) (ps acc : Nat) (es is : List Nat) (hb : InB is es)
    (hle : LeL es (replaceLast ps es)) (hadm : (((acc + 1) * prod (replaceLast ps es) : Nat) : Int) ≤ T.hi) :
    rpadGoM T ps acc (toI es) (toI is) = .ok ((rpadGo ps acc es is : Nat) : Int) := by
  induction is, es, hb using InB.induction generalizing acc with
  | nil => rfl
  | @cons i e is es hi hb ih =>
    cases is, es, hb using InB.induction with
    | nil => exact hornerStepPadM_ok T pure (Nat.lt_of_lt_of_le hi hle.1) ((Nat.mul_one ps).symm ▸ hadm)
    | @cons i' e' is es hi' hb =>
      have hb' : InB (i' :: is) (replaceLast ps (e' :: es)) := inB_leL (i' :: is) (e' :: es) _ ⟨hi', hb⟩ hle.2
      have hp : 0 < prod (replaceLast ps (e' :: es)) := prod_pos _ (inB_pos _ _ hb')
      exact (hornerStepPadM_ok T (rpadGoM T ps · (toI (e' :: es)) (toI (i' :: is))) hi
          (natCast_le_of_le (horner_now acc e hp) hadm)).trans
        (ih (acc * e + i) hle.2 (natCast_le_of_le (horner_next hi _) hadm))

/-- **C14, layout_right_padded::operator()** -/
theorem C14_rpad_offset (T : ITy) (ps : Nat) (es is : List Nat) (hb : InB is es)
    (hpad : PadOKRight ps es) (hrep : ∀ e ∈ es, (e : Int) ≤ T.hi)
    (hadm : ((rpadSpan ps es : Nat) : Int) ≤ T.hi) :
    rpadOffM T ps (toI es) (toI is) = .ok (((Layout.rpad es ps).offset is : Nat) : Int) := by
  cases is, es, hb using InB.induction with
  | nil => rfl
  | @cons i e is es hi hb =>
    cases is, es, hb using InB.induction with
    | nil => rfl
    | @cons i' e' is es hi' hb =>
      -- the loop runs over the allocation extents `replaceLast ps es`, whose product is the span
      exact rpadGoM_refines T ps 0 (e :: e' :: es) (i :: i' :: is) ⟨hi, hi', hb⟩ (hpad.resolve_left (by simp))
        (by rw [Nat.zero_add, Nat.one_mul, ← rpadSpan_eq]; exact hadm)

example : InB [2, 3, 5] [3, 4, 6] ∧ PadOKRight 8 [3, 4, 6] ∧ (∀ e ∈ [3, 4, 6], ((e : Nat) : Int) ≤ ITy.i8.hi) ∧
    ((rpadSpan 8 [3, 4, 6] : Nat) : Int) ≤ ITy.i8.hi := by
  refine ⟨by decide +kernel, Or.inr (by simp [LeL, replaceLast]), by decide +kernel, by decide +kernel⟩
example : rpadOffM .i8 8 (toI [3, 4, 6]) (toI [2, 3, 5]) = .ok 93 := by decide +kernel

/-! ### required_span_size of the padded layouts -/

/-- `layout_left_padded::required_span_size` with zero extents (and a zero padded stride)
    counted as one -/
def lpadSpan1 (ps : Nat) : List Nat → Nat
  | [] => 1
  | [e] => if e = 0 then 1 else e
  | _ :: es => prod1 (ps :: es)
/-- the same for `layout_right_padded` -/
def rpadSpan1 (ps : Nat) : List Nat → Nat
  | [] => 1
  | [e] => if e = 0 then 1 else e
  | es => prod1 (replaceLast ps es)

theorem lpadSpan1_eq (ps : Nat) : ∀ es : List Nat, 2 ≤ es.length → lpadSpan1 ps es = one0 ps * prod1 (es.drop 1)
  | _ :: _ :: _, _ => rfl

/-- the allocation extents of layout_right_padded, the padded stride first: the order in which `stride(r)`
    and `strides()` multiply them -/
theorem rpadSpan1_eq (ps : Nat) : ∀ es : List Nat, 2 ≤ es.length → rpadSpan1 ps es = one0 ps * prod1 es.dropLast
  | e :: e' :: es, _ => by
    show prod1 (replaceLast ps (e :: e' :: es)) = _
    rw [replaceLast_eq ps _ (List.cons_ne_nil _ _), prod1_append, Nat.mul_comm]
    exact congrArg (· * prod1 _) (Nat.mul_one _)

theorem lpadSpan_le_lpadSpan1 (ps : Nat) (es : List Nat) : lpadSpan ps es ≤ lpadSpan1 ps es := by
  rcases es with _ | ⟨e, _ | ⟨e', es⟩⟩
  · exact Nat.le_refl _
  · exact le_one0 e
  · exact prod_le_prod1 (ps :: e' :: es)

theorem rpadSpan_le_rpadSpan1 (ps : Nat) (es : List Nat) : rpadSpan ps es ≤ rpadSpan1 ps es := by
  rcases es with _ | ⟨e, _ | ⟨e', es⟩⟩
  · exact Nat.le_refl _
  · exact le_one0 e
  · rw [rpadSpan_eq]
    exact prod_le_prod1 _

/-- **C14, layout_left_padded::required_span_size** -/
theorem C14_lpad_span (T : ITy) (ps : Nat) (es : List Nat) (hrep : ∀ e ∈ es, (e : Int) ≤ T.hi)
    (hadm : ((lpadSpan1 ps es : Nat) : Int) ≤ T.hi) :
    lpadSpanM T ps (toI es) = .ok (((Layout.lpad es ps).span : Nat) : Int) := by
  rcases es with _ | ⟨e, _ | ⟨e', es⟩⟩
  · rfl
  · rfl
  · exact prodGoM_prod1 T ps (e' :: es) hadm

/-- **C14, layout_right_padded::required_span_size** -/
theorem C14_rpad_span (T : ITy) (ps : Nat) (es : List Nat) (hrep : ∀ e ∈ es, (e : Int) ≤ T.hi)
    (hadm : ((rpadSpan1 ps es : Nat) : Int) ≤ T.hi) :
    rpadSpanM T ps (toI es) = .ok (((Layout.rpad es ps).span : Nat) : Int) := by
  rcases es with _ | ⟨e, _ | ⟨e', es⟩⟩
  · rfl
  · rfl
  · have hne : e :: e' :: es ≠ [] := List.cons_ne_nil _ _
    -- the product of the leading extents, then `* ps`: the running product over `replaceLast ps es`
    show (prodGoM T 1 (toI (e :: e' :: es)).dropLast >>= (prodGoM T · (toI [ps]))) =
      .ok ((rpadSpan ps (e :: e' :: es) : Nat) : Int)
    rw [← prodGoM_append, toI_dropLast, ← toI_append, ← replaceLast_eq ps _ hne, rpadSpan_eq]
    exact prodGoM_one T _ hadm

example : (∀ e ∈ [6, 0, 4], ((e : Nat) : Int) ≤ ITy.i8.hi) ∧ ((lpadSpan1 8 [6, 0, 4] : Nat) : Int) ≤ ITy.i8.hi ∧
    ((rpadSpan1 8 [3, 0, 6] : Nat) : Int) ≤ ITy.i8.hi := by decide +kernel
example : lpadSpanM .i8 8 (toI [6, 3, 4]) = .ok 96 ∧ rpadSpanM .i8 8 (toI [3, 4, 6]) = .ok 96 := by decide +kernel

/-! ### stride(r) of the padded layouts -/

/-- **C14, layout_left_padded::stride(r)** -/
theorem C14_lpad_stride (T : ITy) (ps : Nat) (es : List Nat) (r : Nat) (hr : r < es.length)
    (hrep : ∀ e ∈ es, (e : Int) ≤ T.hi) (hadm : ((lpadSpan1 ps es : Nat) : Int) ≤ T.hi) :
    lpadStrideM T ps (toI es) r = .ok ((lpadStrideP ps es r : Nat) : Int) := by
  unfold lpadStrideM lpadStrideP
  by_cases h0 : r = 0
  · rw [if_pos h0, if_pos h0]; rfl
  · rw [if_neg h0, if_neg h0, toI_drop, toI_take]
    have h2 : 2 ≤ es.length := Nat.lt_of_le_of_lt (Nat.pos_of_ne_zero h0) hr
    have hsub : prod1 ((es.drop 1).take (r - 1)) ≤ prod1 (es.drop 1) := prod1_sublist (List.take_sublist (r - 1) _)
    have hb : one0 ps * prod1 ((es.drop 1).take (r - 1)) ≤ lpadSpan1 ps es :=
      lpadSpan1_eq ps es h2 ▸ Nat.mul_le_mul_left _ hsub
    exact prodGoM_prod1 T ps _ (natCast_le_of_le hb hadm)

/-- **C14, layout_right_padded::stride(r)** -/
theorem C14_rpad_stride (T : ITy) (ps : Nat) (es : List Nat) (r : Nat) (hr : r < es.length)
    (hrep : ∀ e ∈ es, (e : Int) ≤ T.hi) (hadm : ((rpadSpan1 ps es : Nat) : Int) ≤ T.hi) :
    rpadStrideM T ps (toI es) r = .ok ((rpadStrideP ps es r : Nat) : Int) := by
  unfold rpadStrideM rpadStrideP
  rw [toI_length]
  by_cases h0 : r + 1 = es.length
  · rw [if_pos h0, if_pos h0]; rfl
  · rw [if_neg h0, if_neg h0, toI_dropLast, toI_drop, toI_reverse, ← prod_reverse]
    have h2 : 2 ≤ es.length := Nat.le_trans (Nat.le_add_left 2 r) (Nat.lt_of_le_of_ne hr h0)
    have hsub : prod1 (es.dropLast.drop (r + 1)).reverse ≤ prod1 es.dropLast :=
      Nat.le_trans (Nat.le_of_eq (prod1_reverse _)) (prod1_sublist (List.drop_sublist (r + 1) _))
    have hb : one0 ps * prod1 (es.dropLast.drop (r + 1)).reverse ≤ rpadSpan1 ps es :=
      rpadSpan1_eq ps es h2 ▸ Nat.mul_le_mul_left _ hsub
    exact prodGoM_prod1 T ps _ (natCast_le_of_le hb hadm)

example : (∀ e ∈ [6, 3, 0, 4], ((e : Nat) : Int) ≤ ITy.i8.hi) ∧ ((lpadSpan1 8 [6, 3, 0, 4] : Nat) : Int) ≤ ITy.i8.hi ∧
    ((rpadSpan1 8 [4, 0, 3, 6] : Nat) : Int) ≤ ITy.i8.hi := by decide +kernel
example : lpadStrideM .i8 8 (toI [6, 3, 2, 4]) 3 = .ok 48 ∧ rpadStrideM .i8 8 (toI [4, 2, 3, 6]) 0 = .ok 48 := by
  decide +kernel

/-! ### strides() of the padded layouts -/

/-- `dropLast`: the last extent is never multiplied in -/
theorem lpadStridesGoM_refines (T : ITy) (v : Nat) (es : List Nat)
    (hadm : ((one0 v * prod1 es.dropLast : Nat) : Int) ≤ T.hi) :
    lpadStridesGoM T v (toI es) = .ok (toI (leftStridesFrom v es)) := by
  induction es generalizing v with
  | nil => rfl
  | cons e es ih =>
    rcases es with _ | ⟨e', es⟩
    · rfl
    · have ⟨hm, hnext⟩ := mulAssignM_prod1 T (es := (e' :: es).dropLast) hadm
      show (mulAssignM T v e >>= fun v' => lpadStridesGoM T v' (toI (e' :: es)) >>= fun rest =>
        pure ((v : Int) :: rest)) = _
      rw [hm, ok_bind, ih (v * e) hnext]
      rfl

/-- both `strides()` start with `value = 1; value *= ps` and go on with the running product over `l`, the
    extents that are not padded, taken in their own order or in reverse -/
theorem padStridesLoop_ok (T : ITy) {α : Type} (k : List Int → M α) {ps : Nat} {l : List Nat}
    (hadm : ((one0 ps * prod1 l : Nat) : Int) ≤ T.hi) :
    (do let v ← mulAssignM T 1 ps
        let rest ← lpadStridesGoM T v (toI l)
        k rest) = k (toI (leftStridesFrom ps l)) := by
  have hps : (ps : Int) ≤ T.hi := natCast_le_of_le (le_one0_mul_prod1 ps l) hadm
  have hgo : ((one0 ps * prod1 l.dropLast : Nat) : Int) ≤ T.hi :=
    natCast_le_of_le (Nat.mul_le_mul_left _ (prod1_sublist l.dropLast_sublist)) hadm
  rw [mulAssignM_one T hps, ok_bind, lpadStridesGoM_refines T ps l hgo, ok_bind]

/-- **C14, layout_left_padded::strides()** -/
theorem C14_lpad_strides (T : ITy) (ps : Nat) (es : List Nat) (hrep : ∀ e ∈ es, (e : Int) ≤ T.hi)
    (hadm : ((lpadSpan1 ps es : Nat) : Int) ≤ T.hi) :
    lpadStridesArrM T ps (toI es) = .ok (toI (Layout.lpad es ps).strides) := by
  rcases es with _ | ⟨e, _ | ⟨e', es⟩⟩
  · rfl
  · rfl
  · exact padStridesLoop_ok T (fun rest => pure (1 :: rest)) hadm

/-- **C14, layout_right_padded::strides()** -/
theorem C14_rpad_strides (T : ITy) (ps : Nat) (es : List Nat) (hrep : ∀ e ∈ es, (e : Int) ≤ T.hi)
    (hadm : ((rpadSpan1 ps es : Nat) : Int) ≤ T.hi) :
    rpadStridesArrM T ps (toI es) = .ok (toI (Layout.rpad es ps).strides) := by
  rcases es with _ | ⟨e, _ | ⟨e', es⟩⟩
  · rfl
  · rfl
  · have hne : e :: e' :: es ≠ [] := List.cons_ne_nil _ _
    show (mulAssignM T 1 ps >>= fun v => lpadStridesGoM T v (toI (e :: e' :: es)).dropLast.reverse >>= fun rest =>
      pure (rest.reverse ++ [1])) = .ok (toI (rpadStrides ps (e :: e' :: es)))
    rw [rpadSpan1_eq ps _ (Nat.le_add_left 2 _), ← prod1_reverse] at hadm
    rw [toI_dropLast, toI_reverse, padStridesLoop_ok T _ hadm, rpadStrides_eq_rev ps _ hne, toI_append, ← toI_reverse]
    rfl

example : lpadStridesArrM .i8 8 (toI [6, 3, 2, 4]) = .ok [1, 8, 24, 48] ∧
    rpadStridesArrM .i8 8 (toI [4, 2, 3, 6]) = .ok [48, 24, 8, 1] := by decide +kernel

/-! ### the padded stride computed by the constructors -/

/-- pure mirror of `padStrideCtorM` -/
def padStrideCtor (sp se pv : Option Nat) (rank epad : Nat) : Nat :=
  if rank < 2 then 0
  else match sp, se with
    | some p, some e => findNextMultiple p e
    | _, _ =>
      match pv with
      | some v => findNextMultiple v epad
      | none =>
        match sp with
        | none => epad
        | some p => findNextMultiple p epad

/-- **C14, padded-stride computation of the padded mappings' constructors** (with the repaired
    `find_next_multiple`): no UB and the exact least multiple whenever the padding value, the
    extent to pad and the resulting padded stride are representable. -/
theorem C14_pad_ctor (T : ITy) (sp se pv : Option Nat) (rank epad : Nat)
    (hep : (epad : Int) ≤ T.hi) (hsp : ∀ p, sp = some p → (p : Int) ≤ T.hi)
    (hse : ∀ e, se = some e → (e : Int) ≤ T.hi) (hpv : ∀ v, pv = some v → (v : Int) ≤ T.hi)
    (hres : ((padStrideCtor sp se pv rank epad : Nat) : Int) ≤ T.hi) :
    padStrideCtorM T sp se (pv.map Int.ofNat) rank epad =
      .ok ((padStrideCtor sp se pv rank epad : Nat) : Int) := by
  unfold padStrideCtorM
  unfold padStrideCtor at hres ⊢
  by_cases hr : rank < 2
  · rw [if_pos hr, if_pos hr]; rfl
  · rw [if_neg hr] at hres ⊢
    rw [if_neg hr]
    -- a padding value given at run time: `find_next_multiple` in `index_type`
    have dyn : ∀ (a : Nat), (a : Int) ≤ T.hi → ((findNextMultiple a epad : Nat) : Int) ≤ T.hi →
        findNextMultipleM T (T.wrap (a : Int)) epad = .ok ((findNextMultiple a epad : Nat) : Int) := by
      intro a ha hm
      rw [T.wrap_nat ha]
      exact findNextMultipleM_refines T a epad ha hep hm
    rcases sp with _ | p
    · cases pv with
      | none => rfl
      | some v => exact dyn v (hpv v rfl) hres
    · rcases se with _ | e
      · cases pv with
        | none => exact dyn p (hsp p rfl) hres
        | some v => exact dyn v (hpv v rfl) hres
      · -- both static: the compile-time value, computed in `size_t` and converted
        have h64 := T.hi_le_u64
        have := findNextMultipleM_refines .u64 p e (Int.le_trans (hsp p rfl) h64) (Int.le_trans (hse e rfl) h64)
          (Int.le_trans hres h64)
        show Except.ok (T.wrap (staticPaddedStride p e)) = _
        rw [staticPaddedStride, this, T.wrap_nat hres]

example : ((padStrideCtor none none (some 8) 3 100 : Nat) : Int) ≤ ITy.i8.hi ∧
    padStrideCtorM .i8 none none (some 8) 3 100 = .ok 104 ∧
    padStrideCtorM .i8 (some 8) (some 100) none 3 100 = .ok 104 := by decide +kernel

end Mdspan
