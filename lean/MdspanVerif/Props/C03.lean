import MdspanVerif.Props.C14h
import MdspanVerif.Model.Access
/-!
# C03 — element access is `accessor.access(data_handle, mapping(indices...))` in every form

The view model of `Model/View.lean` stores (handle, mapping, accessor).  An access converts every
index argument to `index_type` (`static_cast<index_type>(std::move(idx))`, or the implicit
conversion of `indices[Idxs]` in the array / span forms), calls the mapping and hands the
offset to the accessor.  With the default accessor the element is `data_handle()[offset]`.
-/
namespace Mdspan

/-- **C03 (all spellings agree)**: by construction (`mappingArgs` does not read the form); that the C++ spellings
    reduce to this one computation is the correspondence's part -/
theorem C03_forms_agree (T S : ITy) (f g : AccessForm) (v : MdsView Int LayoutI Int) (args : List Int) :
    accessAddr T S f v args = accessAddr T S g v args := rfl

theorem convIdx_id (T S : ITy) (i : Nat) (hS : (i : Int) ≤ S.hi) (hT : (i : Int) ≤ T.hi) : convIdx T S i = i := by
  unfold convIdx
  rw [S.wrap_nat hS, T.wrap_nat hT]

/-- **C03 (the element designated)**: for an admissible mapping and a multi-index inside the
    extents given with arguments of any integer type that can represent it, every access form
    executes no UB and touches exactly `data_handle()[mapping()(indices...)]`, an element of
    `[data_handle(), data_handle() + required_span_size())`.  The view's accessor field holds an arbitrary
    value (`-1`): with the default accessor `accessAddr` does not read it. -/
theorem C03_access (T S : ITy) (f : AccessForm) (L : Layout) (h : Nat) (is : List Nat)
    (hadm : L.admB T = true) (hb : InB is L.extents) (hS : ∀ i ∈ is, (i : Int) ≤ S.hi) :
    accessAddr T S f ⟨h, L.toI, -1⟩ (toI is) = .ok ((h + L.offset is : Nat) : Int) ∧
    h ≤ h + L.offset is ∧ h + L.offset is < h + L.span := by
  obtain ⟨_, _, hre, _⟩ := admB_elim T L hadm
  refine ⟨?_, Nat.le_add_right h _, Nat.add_lt_add_left (admB_offset_lt T L hadm hb) h⟩
  have hconv : (toI is).map (convIdx T S) = toI is :=
    List.map_map.trans (List.map_congr_left fun i hi =>
      convIdx_id T S i (hS i hi) (inB_le_hi T is L.extents hb hre i hi))
  unfold accessAddr accessOffset mappingArgs
  rw [hconv, C14_adm_offset T L is hadm hb]
  simp only [bind, Except.bind, pure, Except.pure, Int.natCast_add]

end Mdspan
