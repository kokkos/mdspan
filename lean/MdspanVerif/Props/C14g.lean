import MdspanVerif.Lemmas.Machine
import MdspanVerif.Model.SubM
import MdspanVerif.Lemmas.Slices
/-!
# C14 — submdspan_extents and the strides of submdspan_mapping
-/
namespace Mdspan

def Slice.toI : Slice → SliceI
  | .idx i => .idx i
  | .range b e => .range b e
  | .full => .full
  | .strided o x s => .strided o x s

/-- all members of the slice are representable in `T` -/
def Slice.Rep (T : ITy) : Slice → Prop
  | .idx i => (i : Int) ≤ T.hi
  | .range b e => (b : Int) ≤ T.hi ∧ (e : Int) ≤ T.hi
  | .full => True
  | .strided o x s => (o : Int) ≤ T.hi ∧ (x : Int) ≤ T.hi ∧ (s : Int) ≤ T.hi

instance (T : ITy) (sl : Slice) : Decidable (sl.Rep T) := by cases sl <;> unfold Slice.Rep <;> infer_instance

def toSI (sls : List Slice) : List SliceI := sls.map Slice.toI
@[simp] theorem toSI_nil : toSI [] = [] := rfl
@[simp] theorem toSI_cons (a : Slice) (l : List Slice) : toSI (a :: l) = a.toI :: toSI l := rfl

/-! ### submdspan_extents -/

/-- **C14, one extent of `submdspan_extents`** -/
theorem C14_sub_extent (T : ITy) (e : Nat) (sl : Slice) (he : (e : Int) ≤ T.hi)
    (hv : sl.Valid e) (hr : sl.Rep T) :
    subExtentM T e sl.toI = .ok ((sl.ext e).map Int.ofNat) := by
  -- `hi - lo` on `index_type` values: the range and the full slice
  have diff {a b : Nat} (hba : b ≤ a) (ha : (a : Int) ≤ T.hi) :
      (V.sub ⟨T, a⟩ ⟨T, b⟩ >>= fun d => pure (some (narrow T d))) = .ok (some ((a - b : Nat) : Int)) := by
    rw [V.sub_ok T T.common_self hba ha, ok_bind, narrow_id T (natCast_le_of_le (Nat.sub_le a b) ha)]
    rfl
  cases sl with
  | idx i => rfl
  | range b e' => exact diff hv.1 hr.2
  | full => exact diff (Nat.zero_le e) he
  | strided o x s =>
    obtain ⟨_, hx, hs⟩ := hr
    show (if V.lt ⟨.i32, ((0 : Nat) : Int)⟩ ⟨T, x⟩ then _ else _) = Except.ok (some (Int.ofNat (if x > 0 then _ else 0)))
    rw [V.lt_nat (Int.natCast_nonneg _) hx]
    by_cases hx0 : 0 < x
    · have hspos : 0 < s := hv.2.resolve_left (Nat.ne_of_gt hx0)
      have hxm1 : ((x - 1 : Nat) : Int) ≤ T.hi := natCast_le_of_le (Nat.sub_le _ _) hx
      -- `1 + (x - 1) / s ≤ 1 + (x - 1) = x`
      have hres : ((1 + (x - 1) / s : Nat) : Int) ≤ T.hi :=
        natCast_le_of_le (Nat.le_trans (Nat.add_le_add_left (Nat.div_le_self _ s) 1)
          (Nat.le_of_eq (Nat.add_sub_cancel' hx0))) hx
      rw [if_pos (decide_eq_true hx0), if_pos hx0, V.pred_ok T hx0 hx, ok_bind, narrow_id T hxm1,
        V.div_ok T T.common_self hspos hxm1 hs, ok_bind, V.one_add_ok T hres, ok_bind, narrow_id T hres]
      rfl
    · rw [if_neg (fun h => hx0 (of_decide_eq_true h)), if_neg hx0]
      rfl

/-- **C14, `submdspan_extents`** -/
theorem C14_sub_extents (T : ITy) : ∀ (sls : List Slice) (es : List Nat), SlicesValid sls es →
    (∀ e ∈ es, (e : Int) ≤ T.hi) → (∀ sl ∈ sls, sl.Rep T) →
    subExtsM T (toSI sls) (toI es) = .ok (toI (subExts sls es)) := by
  intro sls es hv hre hrs
  induction sls, es, hv using SlicesValid.induction with
  | nil => rfl
  | @cons sl e sls es h _ ih =>
    obtain ⟨he, hre⟩ := List.forall_mem_cons.mp hre
    obtain ⟨hr, hrs⟩ := List.forall_mem_cons.mp hrs
    rw [toSI_cons, toI_cons, subExtsM, subExts, C14_sub_extent T e sl he h hr, ok_bind, ih hre hrs, ok_bind]
    cases sl.ext e <;> rfl

example : SlicesValid [.idx 2, .range 1 4, .full, .strided 1 7 3, .strided 2 0 0] [3, 5, 6, 9, 4] ∧
    (∀ e ∈ [3, 5, 6, 9, 4], ((e : Nat) : Int) ≤ ITy.i8.hi) ∧
    (∀ sl ∈ [Slice.idx 2, .range 1 4, .full, .strided 1 7 3, .strided 2 0 0], sl.Rep .i8) := by decide +kernel
example : subExtsM .i8 (toSI [.idx 2, .range 1 4, .full, .strided 1 7 3, .strided 2 0 0]) (toI [3, 5, 6, 9, 4]) =
    .ok [3, 6, 3, 0] := by decide +kernel

/-! ### construct_sub_strides (repaired `stride_of`) -/

theorem strideOfM_refines (T : ITy) (sl : Slice) (hr : sl.Rep T) :
    strideOfM T true sl.toI = (sl.step : Int) := by
  cases sl with
  | strided o x s =>
    obtain ⟨_, hx, hs⟩ := hr
    simp only [Slice.toI, strideOfM, Slice.step, if_true]
    rw [V.lt_nat hs hx]
    by_cases h : s < x <;> simp [h]
  | _ => rfl

theorem Slice.Rep.step_le {T : ITy} {sl : Slice} (hr : sl.Rep T) : (sl.step : Int) ≤ T.hi := by
  have h1 := T.one_le_hi
  cases sl with
  | strided o x s =>
    obtain ⟨_, _, hs⟩ := hr
    simp only [Slice.step]; split
    · exact hs
    · exact h1
  | _ => exact h1

theorem isIdx_toI (sl : Slice) : sl.toI.isIdx = sl.isIdx := by cases sl <;> rfl

/-- **C14, `construct_sub_strides`** (with the repaired `stride_of`): no UB and the exact strides
    whenever every product `stride(r) · stride_of(slice_r)` is representable. -/
theorem C14_sub_strides (T : ITy) : ∀ (sls : List Slice) (ss : List Nat),
    (∀ s ∈ ss, (s : Int) ≤ T.hi) → (∀ sl ∈ sls, sl.Rep T) →
    (∀ p ∈ subStrides sls ss, (p : Int) ≤ T.hi) →
    subStridesM T true (toSI sls) (toI ss) = .ok (toI (subStrides sls ss)) := by
  intro sls ss hss hrs hp
  induction sls generalizing ss with
  | nil => rfl
  | cons sl sls ih =>
    rcases ss with _ | ⟨s, ss⟩
    · rfl
    obtain ⟨hs, hss⟩ := List.forall_mem_cons.mp hss
    obtain ⟨hr, hrs⟩ := List.forall_mem_cons.mp hrs
    have ih := ih ss hss hrs
    rw [subStrides] at hp ⊢
    rw [toSI_cons, toI_cons, subStridesM, isIdx_toI]
    by_cases hidx : sl.isIdx = true
    · rw [if_pos hidx] at hp ⊢
      rw [ih hp, ok_bind, if_pos hidx]
      rfl
    · rw [if_neg hidx] at hp ⊢
      obtain ⟨hprod, hp⟩ := List.forall_mem_cons.mp hp
      rw [ih hp, ok_bind, if_neg hidx, strideOfM_refines T sl hr, T.wrap_nat hr.step_le,
        V.mul_ok T T.common_self hs hr.step_le hprod, ok_bind, narrow_id T hprod]
      rfl

example : (∀ s ∈ [60, 12, 3, 1], ((s : Nat) : Int) ≤ ITy.i8.hi) ∧
    (∀ sl ∈ [Slice.idx 1, .range 1 4, .strided 0 4 2, .strided 0 3 5], sl.Rep .i8) ∧
    (∀ p ∈ subStrides [.idx 1, .range 1 4, .strided 0 4 2, .strided 0 3 5] [60, 12, 3, 1], ((p : Nat) : Int) ≤ ITy.i8.hi) := by
  decide +kernel
example : subStridesM .i8 true (toSI [.idx 1, .range 1 4, .strided 0 4 2, .strided 0 3 5]) (toI [60, 12, 3, 1]) =
    .ok [12, 6, 1] := by decide +kernel

end Mdspan
