import MdspanVerif.Props.C16
import MdspanVerif.Props.C16c
import MdspanVerif.Props.C02
import MdspanVerif.Props.C08
/-!
# C16 (mappings, accessors, mdspan, argument packs)

`Impl.* = Spec.*` for every descriptor of every rank, the derived statements of the property text,
and the *semantic* reading of "implicit": which implicit mapping conversions are free of
preconditions (`map_implicit_total`, `implicit_to_stride_total`) — and which are not
(`padded_implicit_not_total`).
-/
namespace Mdspan

theorem Bool.and_left {a b : Bool} (h : (a && b) = true) : a = true := (Bool.and_eq_true_iff.mp h).1
theorem Bool.and_right {a b : Bool} (h : (a && b) = true) : b = true := (Bool.and_eq_true_iff.mp h).2

/-! ## `Impl = Spec` for the mappings -/

theorem row_isSome (p e : Bool) : (Spec.row p e).isSome = p := by cases p <;> rfl
theorem row_eq_true (p e : Bool) : (Spec.row p e == some true) = (p && e) := by
  cases p <;> cases e <;> rfl
theorem row_eq_false (p e : Bool) : (Spec.row p e == some false) = (p && !e) := by
  cases p <;> cases e <;> rfl

theorem strideCtor_fst (E : ExtT) (s : MapT) :
    (Impl.strideCtor E s).1 = Impl.extConstructible E s.ext := by
  simp [Impl.strideCtor, Impl.isMappingOf, Impl.alwaysUnique, Impl.alwaysStrided]

theorem mapRule_eq (d s : MapT) (h : d ≠ s) :
    Spec.mapRule d s = Spec.row (Impl.mapCtor d s).1 (Impl.mapCtor d s).2 := by
  obtain ⟨dl, E⟩ := d
  obtain ⟨sl, F⟩ := s
  -- the table in the words of `Impl`: then the cells are the same text on both sides, up to
  -- the always-true conjuncts of `layout_stride` and the order of one conjunction
  simp only [Spec.mapRule, if_neg h, extSub_eq, extSubI_eq, Option.beq_none]
  cases dl
  case stride => rw [Impl.mapCtor, strideCtor_fst]; rfl
  all_goals cases sl <;>
    dsimp only [Impl.mapCtor, Impl.leftCtor, Impl.rightCtor, Impl.lpadCtor, Impl.rpadCtor]
  case lpad.rpad | rpad.lpad => exact congrArg (Spec.row · _) (Bool.and_comm ..)
  all_goals rfl

theorem mapConstructible_of_ne {d s : MapT} (h : d ≠ s) :
    Impl.mapConstructible d s = (Impl.mapCtor d s).1 := if_neg h
theorem mapExplicit_of_ne {d s : MapT} (h : d ≠ s) :
    Impl.mapExplicit d s = ((Impl.mapCtor d s).1 && (Impl.mapCtor d s).2) := if_neg h
theorem mapConvertible_of_ne {d s : MapT} (h : d ≠ s) :
    Impl.mapConvertible d s = ((Impl.mapCtor d s).1 && !(Impl.mapCtor d s).2) := by
  rw [Impl.mapConvertible, mapConstructible_of_ne h, mapExplicit_of_ne h]
  cases (Impl.mapCtor d s).1 <;> rfl

theorem mapExplicit_of_viable {d s : MapT} (h : d ≠ s) (hc : Impl.mapConstructible d s = true) :
    Impl.mapExplicit d s = (Impl.mapCtor d s).2 := by
  rw [mapExplicit_of_ne h, ← mapConstructible_of_ne h, hc, Bool.true_and]

theorem mapRule_self (d : MapT) : Spec.mapRule d d = some false := if_pos rfl

theorem map_identity_implicit (d : MapT) : Impl.mapConvertible d d = true := by
  simp [Impl.mapConvertible, Impl.mapConstructible, Impl.mapExplicit]

theorem mapHardError_self (d : MapT) : Impl.mapHardError d d = false := if_pos rfl

theorem mapTraits (d s : MapT) :
    Impl.mapConstructible d s = (Spec.mapRule d s).isSome ∧
      Impl.mapExplicit d s = (Spec.mapRule d s == some true) ∧
      Impl.mapConvertible d s = (Spec.mapRule d s == some false) := by
  by_cases h : d = s
  · subst h
    rw [mapRule_self]
    exact ⟨if_pos rfl, if_pos rfl, map_identity_implicit d⟩
  · rw [mapRule_eq d s h, row_isSome, row_eq_true, row_eq_false]
    exact ⟨mapConstructible_of_ne h, mapExplicit_of_ne h, mapConvertible_of_ne h⟩

/-- **C16 (mappings, participation)**: `std::is_constructible_v` as the headers constrain it is the
    rule table, for every pair of mapping types of every rank -/
theorem C16_map_constructible (d s : MapT) :
    Impl.mapConstructible d s = Spec.mapConstructible d s := (mapTraits d s).1

/-- **C16 (mappings, explicitness)** -/
theorem C16_map_explicit (d s : MapT) : Impl.mapExplicit d s = Spec.mapExplicit d s := (mapTraits d s).2.1

/-- `std::is_convertible_v` (C++20 and later) -/
theorem C16_map_convertible (d s : MapT) : Impl.mapConvertible d s = Spec.mapConvertible d s :=
  (mapTraits d s).2.2

/-! ## the statements of the property text -/

theorem ne_of_lay_ne {d s : MapT} (h : d.lay ≠ s.lay) : d ≠ s := fun e => h (e ▸ rfl)

/-- what a viable, and then an implicit, conversion needs: constructible extents always; convertible
    extents unless the `explicit(...)` of the row only looks at the rank (from `layout_stride`) or at
    rank and padding values (inside a padded family) -/
theorem mapCtor_part (d s : MapT) (h1 : (Impl.mapCtor d s).1 = true) :
    Impl.extConstructible d.ext s.ext = true ∧
      ((Impl.mapCtor d s).2 = false →
        Impl.extConvertible d.ext s.ext = true ∨ (d.rank = 0 ∧ s.lay = .stride) ∨
          d.lay.samePaddedFamily s.lay = true) := by
  obtain ⟨dl, E⟩ := d
  obtain ⟨sl, F⟩ := s
  cases dl
  case stride =>
    exact ⟨strideCtor_fst E _ ▸ h1, fun h2 => .inl (Bool.and_left ((Bool.not_eq_false' _).mp h2))⟩
  all_goals cases sl <;> dsimp only [Impl.mapCtor, Impl.leftCtor, Impl.rightCtor, Impl.lpadCtor,
    Impl.rpadCtor, Bool.true_and] at h1 ⊢
  case left.rpad | right.lpad | lpad.right | rpad.left => nomatch h1
  case left.stride | right.stride | lpad.stride | rpad.stride =>
    exact ⟨h1, fun h2 => .inr (.inl ⟨Nat.eq_zero_of_not_pos (of_decide_eq_false h2), rfl⟩)⟩
  case lpad.lpad | rpad.rpad => exact ⟨h1, fun _ => .inr (.inr rfl)⟩
  case left.right | right.left => exact ⟨Bool.and_left h1, fun h2 => .inl ((Bool.not_eq_false' _).mp h2)⟩
  case lpad.rpad | rpad.lpad => exact ⟨Bool.and_right h1, fun h2 => .inl ((Bool.not_eq_false' _).mp h2)⟩
  all_goals exact ⟨h1, fun h2 => .inl ((Bool.not_eq_false' _).mp h2)⟩

theorem mapConstructible_ext (d s : MapT) (h : Impl.mapConstructible d s = true) :
    Impl.extConstructible d.ext s.ext = true := by
  by_cases he : d = s
  · subst he; exact Bool.and_left (extConvertible_self _)
  · exact (mapCtor_part d s (mapConstructible_of_ne he ▸ h)).1

theorem mapCtor_lr (d s : MapT)
    (h : d.lay = .left ∧ s.lay = .right ∨ d.lay = .right ∧ s.lay = .left) :
    d ≠ s ∧ Impl.mapCtor d s =
      (Impl.extConstructible d.ext s.ext && decide (d.rank ≤ 1), !Impl.extConvertible d.ext s.ext) := by
  obtain ⟨dl, E⟩ := d
  obtain ⟨sl, F⟩ := s
  obtain ⟨rfl, rfl⟩ | ⟨rfl, rfl⟩ : dl = .left ∧ sl = .right ∨ dl = .right ∧ sl = .left := h
  all_goals exact ⟨ne_of_lay_ne LayK.noConfusion, rfl⟩

/-- **C16**: `layout_left ↔ layout_right` conversion exists only for rank ≤ 1 -/
theorem C16_lr_rank (d s : MapT)
    (h : d.lay = .left ∧ s.lay = .right ∨ d.lay = .right ∧ s.lay = .left) :
    Impl.mapConstructible d s = true ↔ Spec.extConstructible d.ext s.ext ∧ d.rank ≤ 1 := by
  obtain ⟨hne, hm⟩ := mapCtor_lr d s h
  rw [mapConstructible_of_ne hne, hm, Bool.and_eq_true, C16_ext_constructible, decide_eq_true_iff]

/-- … and is explicit exactly when the extents conversion is not implicit -/
theorem C16_lr_explicit (d s : MapT)
    (h : d.lay = .left ∧ s.lay = .right ∨ d.lay = .right ∧ s.lay = .left)
    (hc : Impl.mapConstructible d s = true) :
    Impl.mapExplicit d s = true ↔ Impl.extConvertible d.ext s.ext = false := by
  obtain ⟨hne, hm⟩ := mapCtor_lr d s h
  rw [mapExplicit_of_viable hne hc, hm, Bool.not_eq_true']

theorem stride_src_explicit (d s : MapT) (hd : d.lay ≠ .stride) (hs : s.lay = .stride)
    (hc : Impl.mapConstructible d s = true) : Impl.mapExplicit d s = true ↔ d.rank > 0 := by
  rw [mapExplicit_of_viable (ne_of_lay_ne (hs ▸ hd)) hc]
  obtain ⟨dl, E⟩ := d
  obtain ⟨sl, F⟩ := s
  obtain rfl : sl = .stride := hs
  cases dl
  case stride => exact absurd rfl hd
  all_goals exact decide_eq_true_iff

/-- **C16**: `layout_stride → layout_left / layout_right` is explicit exactly for rank > 0 -/
theorem C16_stride_to_lr_explicit (d s : MapT) (hd : d.lay = .left ∨ d.lay = .right)
    (hs : s.lay = .stride) (hc : Impl.mapConstructible d s = true) :
    Impl.mapExplicit d s = true ↔ d.rank > 0 :=
  stride_src_explicit d s (fun h => by rw [h] at hd; exact hd.elim nofun nofun) hs hc

/-- the same for `layout_stride → left_padded / right_padded` -/
theorem C16_stride_to_padded_explicit (d s : MapT) (hd : d.lay.isPadded = true)
    (hs : s.lay = .stride) (hc : Impl.mapConstructible d s = true) :
    Impl.mapExplicit d s = true ↔ d.rank > 0 :=
  stride_src_explicit d s (fun h => by rw [h] at hd; cases hd) hs hc

/-- conversion **to** `layout_stride` is implicit exactly from `left` / `right` / `stride` with
    implicitly convertible extents -/
theorem C16_to_stride_implicit (d s : MapT) (hd : d.lay = .stride) :
    Impl.mapConvertible d s = true ↔
      Impl.extConvertible d.ext s.ext = true ∧ (s.lay = .left ∨ s.lay = .right ∨ s.lay = .stride) := by
  by_cases he : d = s
  · subst he
    exact iff_of_true (map_identity_implicit d) ⟨extConvertible_self _, .inr (.inr hd)⟩
  · obtain ⟨dl, E⟩ := d
    obtain rfl : dl = .stride := hd
    rw [mapConvertible_of_ne he, Impl.mapCtor, strideCtor_fst]
    simp only [Impl.strideCtor, Impl.isMappingOf, Bool.not_not, Bool.and_eq_true, Bool.or_eq_true,
      decide_eq_true_eq, or_assoc]
    exact ⟨fun h => h.2, fun h => ⟨Bool.and_left h.1, h⟩⟩

/-- inside one padded family the conversion is explicit exactly for rank > 1 with a dynamic
    padding value on either side -/
theorem C16_padded_family_explicit (d s : MapT) (hne : d ≠ s)
    (hf : d.lay.samePaddedFamily s.lay = true) (hc : Impl.mapConstructible d s = true) :
    Impl.mapExplicit d s = true ↔
      d.rank > 1 ∧ (d.lay.padding = none ∨ s.lay.padding = none) := by
  rw [mapExplicit_of_viable hne hc]
  obtain ⟨dl, E⟩ := d
  obtain ⟨sl, F⟩ := s
  cases dl with
  | left | right | stride => cases hf
  | lpad P | rpad P =>
    cases sl <;> cases hf
    simp [Impl.mapCtor, Impl.lpadCtor, Impl.rpadCtor, MapT.rank, LayK.padding]

theorem map_convertible_constructible (d s : MapT) (h : Impl.mapConvertible d s = true) :
    Impl.mapConstructible d s = true := Bool.and_left h

theorem map_convertible_iff (d s : MapT) :
    Impl.mapConvertible d s = true ↔ Impl.mapConstructible d s = true ∧ Impl.mapExplicit d s = false := by
  simp [Impl.mapConvertible]

/-! ## Mandates (`static_assert`s in the constructor bodies) -/

theorem staticPaddingStride_eq (P : Option Nat) (E : ExtT) (idx : Nat) :
    Impl.staticPaddingStride P E idx = Spec.staticPaddingStride P E idx := by
  unfold Impl.staticPaddingStride Spec.staticPaddingStride ExtT.rank ExtT.staticExtent
  split
  · rfl
  · cases P with
    | none => rfl
    | some p =>
      cases (E.pat[idx]?).getD none with
      | none => rfl
      -- the specification's formula is, literally, `findNextMultipleOrig p e`
      | some e => exact congrArg some (findNextMultipleOrig_eq p e).symm

/-! The three `static_assert`s, each in the words of the specification; the position `idx` of the
    padded extent is a variable, so that the left and the right family share them. -/

/-- `e % 0 = e`: the two branches of the code's test are one remainder -/
theorem paddedToPlainMandateFails_eq (E F : ExtT) (Q : Option Nat) (idx : Nat) :
    Impl.paddedToPlainMandateFails E F Q idx =
      (decide (E.rank > 1) &&
        match E.staticExtent idx, F.staticExtent idx, Q with
        | some e, some _, some q => e % q != 0
        | _, _, _ => false) := by
  unfold Impl.paddedToPlainMandateFails
  congr 1
  generalize E.staticExtent idx = o1
  generalize F.staticExtent idx = o2
  obtain _ | e := o1 <;> obtain _ | f := o2 <;> obtain _ | q := Q <;> try rfl
  show (if q = 0 then e != 0 else e % q != 0) = (e % q != 0)
  split
  · subst q; rw [Nat.mod_zero]
  · rfl

theorem staticExtent_some {E : ExtT} {r e : Nat} (h : E.staticExtent r = some e) :
    E.pat[r]? = some (some e) := by
  unfold ExtT.staticExtent at h
  cases hp : E.pat[r]? with
  | none => rw [hp] at h; cases h
  | some o => rw [hp] at h; exact congrArg some h

/-- the Mandates of `layout_left(left_padded<Q>::mapping<F>)` as the code checks them
    ("`E_pad mod Q = 0` when everything is static") are the C++26 formulation "the source's static
    padded stride equals the target's static extent-to-pad unless one of them is dynamic" -/
theorem paddedToPlain_mandate_alt (E F : ExtT) (Q : Option Nat) (idx : Nat)
    (hc : Impl.extConstructible E F = true) :
    Impl.paddedToPlainMandateFails E F Q idx =
      (decide (E.rank > 1) &&
        match Impl.staticPaddingStride Q F idx, E.staticExtent idx with
        | some a, some b => a != b
        | _, _ => false) := by
  rw [paddedToPlainMandateFails_eq]
  by_cases h1 : E.rank > 1
  · unfold Impl.staticPaddingStride
    rw [if_neg (extConstructible_rank E F hc ▸ Nat.not_le.mpr h1)]
    congr 1
    cases he : E.staticExtent idx <;> cases hf : F.staticExtent idx <;> cases Q <;> try rfl
    next e f q =>
      -- compatible extents: the two static extents are the same number
      obtain rfl : e = f :=
        ((C16_ext_constructible E F).mp hc).2 idx e f (staticExtent_some he) (staticExtent_some hf)
      show (e % q != 0) = (findNextMultiple q e != e)
      rw [Bool.eq_iff_iff, bne_iff_ne, bne_iff_ne, Ne, Ne, findNextMultiple_fix]
  · rw [decide_eq_false h1]; rfl

theorem plainToPaddedAssertFails_eq (P : Option Nat) (E F : ExtT) (idx : Nat)
    (hr : E.rank = F.rank) :
    Impl.plainToPaddedAssertFails P E F idx =
      (decide (E.rank > 1) &&
        match Spec.staticPaddingStride P E idx, F.staticExtent idx with
        | some a, some b => a != b
        | _, _ => false) := by
  rw [Impl.plainToPaddedAssertFails, staticPaddingStride_eq, ← hr,
    show decide (E.rank > 1) = !decide (E.rank ≤ 1) by simp only [← decide_not, Nat.not_le]]
  generalize decide (E.rank ≤ 1) = r1
  generalize Spec.staticPaddingStride P E idx = a
  generalize F.staticExtent idx = b
  cases r1 <;> cases a <;> cases b <;> first | rfl | simp [bne]

theorem paddedToPaddedAssertFails_eq (P Q : Option Nat) :
    Impl.paddedToPaddedAssertFails P Q =
      match P, Q with
      | some p, some q => p != q
      | _, _ => false := by
  cases P <;> cases Q <;> first | rfl | simp [Impl.paddedToPaddedAssertFails, bne]

/-- **C16 (Mandates)**: the hard errors of the constructor bodies are the Mandates of the
    specification, for every pair of mapping types -/
theorem C16_map_mandates (d s : MapT) : Impl.mapHardError d s = Spec.mapMandateViolated d s := by
  by_cases he : d = s
  · subst he
    rw [mapHardError_self, Spec.mapMandateViolated, decide_eq_false (not_not_intro rfl)]
    rfl
  · rw [Impl.mapHardError, if_neg he, Spec.mapMandateViolated, decide_eq_true he,
      ← C16_map_constructible]
    cases hc : Impl.mapConstructible d s
    · rfl
    · have hr := extConstructible_rank _ _ (mapConstructible_ext d s hc)
      obtain ⟨dl, E⟩ := d
      obtain ⟨sl, F⟩ := s
      cases dl <;> cases sl
      case left.lpad | right.rpad => exact paddedToPlainMandateFails_eq ..
      case lpad.left | rpad.right => exact plainToPaddedAssertFails_eq _ _ _ _ hr
      case lpad.lpad | rpad.rpad => exact paddedToPaddedAssertFails_eq ..
      all_goals rfl

/-! ## accessor and mdspan -/

/-- the element types of `Types2` are those of `ElemCv` without `volatile`, and the accessor rule
    is the cv rule (C16c) on them -/
theorem accConstructible_eq_cv (d s : AccT) :
    Impl.accConstructible d s =
      accCvConstructible ⟨d.elem.base, d.elem.isConst, false⟩ ⟨s.elem.base, s.elem.isConst, false⟩ :=
  (Bool.and_true _).symm

/-- **C16**: `default_accessor<T>` converts from `default_accessor<U>` iff `U(*)[]` converts to
    `T(*)[]`: same type, no loss of `const` -/
theorem C16_acc (d s : AccT) : Impl.accConstructible d s = true ↔ Spec.accConstructible d s := by
  rw [accConstructible_eq_cv, C16_acc_cv]
  exact ⟨fun h => ⟨h.1, h.2.1⟩, fun h => ⟨h.1, h.2, id⟩⟩

/-- the accessor conversion is never explicit -/
theorem C16_acc_convertible (d s : AccT) : Impl.accConvertible d s = Impl.accConstructible d s := by
  simp [Impl.accConvertible, Impl.accExplicit]

/-- **C16**: an mdspan converts iff its mapping and its accessor do … -/
theorem C16_mds (d s : MdsT) :
    Impl.mdsConstructible d s = true ↔
      Impl.mapConstructible d.map s.map = true ∧ Impl.accConstructible d.acc s.acc = true := by
  simp [Impl.mdsConstructible]

/-- … and implicitly iff both do implicitly -/
theorem C16_mds_convertible (d s : MdsT) :
    Impl.mdsConvertible d s = true ↔
      Impl.mapConvertible d.map s.map = true ∧ Impl.accConvertible d.acc s.acc = true := by
  simp only [Impl.mdsConvertible, Impl.mdsExplicit, Impl.mdsConstructible, Impl.mapConvertible,
    Impl.accConvertible, Impl.accExplicit]
  generalize Impl.mapConstructible d.map s.map = mc
  generalize Impl.mapExplicit d.map s.map = me
  generalize Impl.accConstructible d.acc s.acc = ac
  revert mc me ac; decide

theorem C16_mds_explicit (d s : MdsT) :
    Impl.mdsExplicit d s = true ↔
      Impl.mdsConstructible d s = true ∧
        (Impl.mapConvertible d.map s.map = false ∨ Impl.accConvertible d.acc s.acc = false) := by
  simp only [Impl.mdsExplicit, Bool.and_eq_true, Bool.or_eq_true, Bool.not_eq_true']

theorem acc_identity (a : AccT) : Impl.accConstructible a a = true := by
  simp [Impl.accConstructible]

theorem mds_convertible_constructible (d s : MdsT) (h : Impl.mdsConvertible d s = true) :
    Impl.mdsConstructible d s = true := Bool.and_left h

theorem mds_identity_implicit (d : MdsT) : Impl.mdsConvertible d d = true := by
  rw [C16_mds_convertible]
  exact ⟨map_identity_implicit _, by rw [C16_acc_convertible]; exact acc_identity _⟩

/-- for a viable mdspan conversion the two `static_assert`s of the constructor (data handle,
    extents) never fire: the only hard errors are those of the mapping constructor -/
theorem mds_hard_error (d s : MdsT) (hc : Impl.mdsConstructible d s = true) :
    Impl.mdsHardError d s = Impl.mapHardError d.map s.map := by
  obtain ⟨hm, ha⟩ := (C16_mds d s).mp hc
  have he := mapConstructible_ext _ _ hm
  -- `T*` from `U*` and `T(*)[]` from `U(*)[]` are one condition on these element types
  have hh : Impl.handleConstructible d.acc.elem s.acc.elem = true := ha
  unfold Impl.mdsHardError
  by_cases hds : d = s
  · subst hds; simp [mapHardError_self]
  · simp [hds, hc, hh, he]

/-! ## index / extent argument packs -/

theorem C16_indexArgs (rank rankDyn nargs : Nat) (c t : Bool) :
    Impl.indexArgsOK rank rankDyn nargs c t = true ↔ Spec.indexArgsOK rank rankDyn nargs c t := by
  simp [Impl.indexArgsOK, Spec.indexArgsOK, and_assoc]

theorem C16_indexCall (rank nargs : Nat) (c t : Bool) :
    Impl.indexCallOK rank nargs c t = true ↔ Spec.indexCallOK rank nargs c t := by
  simp only [Impl.indexCallOK, Spec.indexCallOK, Bool.and_eq_true, beq_iff_eq]
  exact and_comm.trans and_assoc

theorem C16_arrayArg (rank rankDyn N : Nat) (c t : Bool) :
    Impl.arrayArgOK rank rankDyn N c t = true ↔ Spec.indexArgsOK rank rankDyn N c t := by
  simp [Impl.arrayArgOK, Spec.indexArgsOK, and_assoc]

theorem C16_arrayArg_explicit (rankDyn N : Nat) :
    Impl.arrayArgExplicit rankDyn N = true ↔ Spec.arrayArgExplicit rankDyn N := by
  simp [Impl.arrayArgExplicit, Spec.arrayArgExplicit]

/-- `mdspan(handle, ints…)`: the extents rule, and the mapping must be constructible from extents
    (every layout but `layout_stride`) -/
theorem C16_mdsIndexCtor (m : MdsT) (nargs : Nat) (c t : Bool) :
    Impl.mdsIndexCtorOK m nargs c t = true ↔
      Spec.indexArgsOK m.map.ext.rank m.map.ext.rankDynamic nargs c t ∧ m.map.lay ≠ .stride := by
  have hl : Impl.mapFromExtents m.map.lay = true ↔ m.map.lay ≠ .stride := by
    cases m.map.lay <;> simp [Impl.mapFromExtents]
  simp only [Impl.mdsIndexCtorOK, Spec.indexArgsOK, Bool.and_eq_true, Bool.or_eq_true, beq_iff_eq,
    hl, Bool.and_true]
  exact and_congr_left' (and_comm.trans and_assoc)

/-- a call with `rank` arguments is also a valid `extents` pack; the converse fails for
    `rank_dynamic < rank` -/
theorem indexCall_imp_indexArgs (rank rankDyn nargs : Nat) (c t : Bool)
    (h : Impl.indexCallOK rank nargs c t = true) : Impl.indexArgsOK rank rankDyn nargs c t = true := by
  simp only [Impl.indexCallOK, Impl.indexArgsOK, Bool.and_eq_true, Bool.or_eq_true, beq_iff_eq] at *
  exact ⟨h.2, Or.inl h.1⟩

/-! ## what "implicit" means: no precondition

`implicit_total` (C16.lean) says an implicit extents conversion has no precondition.  For mappings
the same holds for every implicit conversion **except** inside one padded family
(`left_padded<P> → left_padded<Q>`, `right_padded<P> → right_padded<Q>`), whose `explicit(...)`
only looks at the padding values and the rank. -/

theorem holds_dyn (T : ITy) (vals : List Nat) (h : ∀ v ∈ vals, (v : Int) ≤ T.hi) :
    (⟨T, List.replicate vals.length none⟩ : ExtT).Holds vals :=
  ⟨List.length_replicate.symm, fun r s hs => by simp [List.getElem?_replicate] at hs, h⟩

/-- **implicit ⇒ total (extents part)**: every run-time extents value of the source mapping type is
    one of the target mapping type -/
theorem map_implicit_total (d s : MapT) (hv : Impl.mapConvertible d s = true)
    (hp : d.lay.samePaddedFamily s.lay = true → d = s) (vals : List Nat)
    (h : s.ext.Holds vals) : d.ext.Holds vals := by
  by_cases he : d = s
  · exact he ▸ h
  · rw [mapConvertible_of_ne he, Bool.and_eq_true, Bool.not_eq_true'] at hv
    obtain ⟨hc, hx⟩ := mapCtor_part d s hv.1
    -- an implicit conversion outside a padded family has implicitly convertible extents …
    rcases hx hv.2 with hx | ⟨h0, -⟩ | hf
    · exact extConvertible_total _ _ hx vals h
    · -- … or is a rank-0 conversion from `layout_stride`: the only value is `[]`
      have hs0 : s.ext.pat.length = 0 := (extConstructible_rank _ _ hc).symm.trans h0
      obtain rfl : vals = [] := List.eq_nil_of_length_eq_zero (h.1.trans hs0)
      refine ⟨h0.symm, fun r x hx => ?_, fun v hv' => nomatch hv'⟩
      rw [List.eq_nil_of_length_eq_zero h0] at hx; cases hx
    · exact absurd (hp hf) he

/-- **finding**: inside a padded family the conversion can be implicit and well-formed although a
    dynamic extent becomes static: `left_padded<4>::mapping<extents<int,4,4>>` from
    `left_padded<4>::mapping<dextents<int,2>>`, source extents `(5,3)` -/
theorem padded_implicit_not_total :
    ∃ (d s : MapT) (vals : List Nat), Impl.mapConvertible d s = true ∧ Impl.mapHardError d s = false ∧
      Impl.mapTypeOK d = true ∧ Impl.mapTypeOK s = true ∧ s.ext.Holds vals ∧ ¬ d.ext.Holds vals :=
  ⟨⟨.lpad (some 4), ⟨.i32, [some 4, some 4]⟩⟩, ⟨.lpad (some 4), ⟨.i32, [none, none]⟩⟩, [5, 3],
    by decide +kernel, by decide +kernel, by decide +kernel, by decide +kernel,
    holds_dyn .i32 [5, 3] (by decide +kernel),
    fun h => nomatch h.2.1 0 4 rfl⟩

/-- … or the index range narrows: `left_padded<4>::mapping<dextents<short,2>>` from
    `left_padded<4>::mapping<dextents<long,2>>`, source extents `(100000,3)` -/
theorem padded_implicit_narrowing :
    ∃ (d s : MapT) (vals : List Nat), Impl.mapConvertible d s = true ∧ Impl.mapHardError d s = false ∧
      s.ext.Holds vals ∧ ¬ d.ext.Holds vals :=
  ⟨⟨.lpad (some 4), ⟨.i16, [none, none]⟩⟩, ⟨.lpad (some 4), ⟨.i64, [none, none]⟩⟩, [100000, 3],
    by decide +kernel, by decide +kernel, holds_dyn .i64 [100000, 3] (by decide +kernel),
    fun h => absurd (h.2.2 100000 (.head _)) (by decide +kernel)⟩

/-! ## implicit conversion to `layout_stride`, on run-time values (pure `Layout` model)

The preconditions of `layout_stride::mapping(const StridedLayoutMapping& other)` are
(a) the extents conversion's (static extents match, values representable),
(b) `other.required_span_size()` is representable in the target `index_type`,
(c) `OFFSET(other) == 0`,
(d) `other.stride(r) > 0` for every `r`.
An **implicit** conversion (source `layout_left` / `layout_right` / `layout_stride` with implicitly
convertible extents) satisfies (a), (b), (c) for every source value, and the result is the same
function with the same strides.  (d) is a property of the source value, not of the conversion:
it holds whenever no extent is 0 (`implicit_to_stride_strides_pos`) and otherwise fails already for
`layout_left` with extents `(0,3)` (`left_zero_extent_stride_zero`) — this is a wart of the wording
of the specification, independent of explicitness. -/

def LayK.kind : LayK → LKind
  | .left => .left | .right => .right | .stride => .stride | .lpad _ => .lpad | .rpad _ => .rpad

/-- `L` is a run-time value of mapping type `t`: right template, extents a value of the extents
    type, `rank` strides stored, and the class invariant "`required_span_size()` is representable
    in `index_type`" -/
def MapT.HoldsL (t : MapT) (L : Layout) : Prop :=
  L.kind = t.lay.kind ∧ t.ext.Holds L.extents ∧ L.WF ∧ (L.span : Int) ≤ t.ext.idx.hi

/-- **implicit ⇒ total, for `→ layout_stride`**: every value of an implicitly convertible source
    type converts (the constructor exists, its mapping-level precondition `ConvPre` is trivial,
    `OFFSET(other) = 0`), the result is a value of the target type (extents fit, span
    representable), and it is the same mapping: same extents, same strides, same offsets. -/
theorem implicit_to_stride_total (d s : MapT) (hd : d.lay = .stride)
    (hv : Impl.mapConvertible d s = true) (L : Layout) (hL : s.HoldsL L) :
    ∃ L' : Layout, convert L .stride = some L' ∧ ConvPre L .stride ∧ L.offsetOrigin = 0 ∧
      d.HoldsL L' ∧ L'.extents = L.extents ∧ L'.strides = L.strides ∧
      ∀ is : List Nat, is.length = L.extents.length → L'.offset is = L.offset is := by
  obtain ⟨hk, hext, hwf, hspan⟩ := hL
  obtain ⟨hx, hsl⟩ := (C16_to_stride_implicit d s hd).mp hv
  have hstr := strideList_eq L hwf
  -- span: the strided image needs no more room than the source
  have hsp : spanStride L.extents L.strideList ≤ L.span := by
    rw [hstr]
    cases L with
    | left es | right es => exact spanStride_strides_le _ trivial
    | stride es ss => exact Nat.le_refl _
    | lpad es ps | rpad es ps => rcases hsl with h | h | h <;> rw [h] at hk <;> cases hk
  have hpre : ConvPre L .stride := by cases L <;> trivial
  have hold : d.HoldsL (.stride L.extents L.strideList) :=
    ⟨congrArg LayK.kind hd.symm, extConvertible_total _ _ hx _ hext, strideList_length L,
      Int.le_trans (Int.ofNat_le.mpr hsp) (Int.le_trans hspan (extConvertible_hi _ _ hx))⟩
  exact ⟨_, convert_stride L, hpre, offsetOrigin_zero L, hold, rfl, hstr,
    offset_congr (.stride _ _) L rfl hstr⟩

/-- precondition (d): with no zero extent every stride of a `layout_left` / `layout_right` source is
    positive (for a `layout_stride` source it is that mapping's own precondition) -/
theorem implicit_to_stride_strides_pos (es : List Nat) (hpos : ∀ e ∈ es, 0 < e) :
    (∀ x ∈ leftStrides es, 0 < x) ∧ (∀ x ∈ rightStrides es, 0 < x) :=
  ⟨leftStridesFrom_pos 1 es Nat.one_pos hpos, rightStrides_pos es hpos⟩

/-- … and without that hypothesis (d) fails although the conversion is implicit:
    `layout_left` over `(0,3)` has `stride(1) = 0` -/
theorem left_zero_extent_stride_zero : (Layout.left [0, 3]).strides = [1, 0] := rfl

/-! ## concrete instances

Each records what a probe of the real headers gave (g++ 12 and clang++ 14, `-std=c++20`):
`std::is_constructible_v`, `std::is_convertible_v`, and whether instantiating the constructor is a
hard error. -/

namespace C16bEx
abbrev E0 : ExtT := ⟨.i32, []⟩                       -- extents<int>
abbrev E1 : ExtT := ⟨.i32, [none]⟩                   -- extents<int, dyn>
abbrev E1s : ExtT := ⟨.i32, [some 4]⟩                -- extents<int, 4>
abbrev E2 : ExtT := ⟨.i32, [none, none]⟩             -- extents<int, dyn, dyn>
abbrev E2s : ExtT := ⟨.i32, [some 4, some 4]⟩        -- extents<int, 4, 4>
abbrev E2s5 : ExtT := ⟨.i32, [some 5, some 5]⟩       -- extents<int, 5, 5>
abbrev E2s8 : ExtT := ⟨.i32, [some 8, some 8]⟩
abbrev L2 : ExtT := ⟨.i64, [none, none]⟩             -- extents<long, dyn, dyn>
abbrev X : ExtT := ⟨.i32, [none, some 4, none]⟩      -- extents<int, dyn, 4, dyn>
abbrev left (E : ExtT) : MapT := ⟨.left, E⟩
abbrev right (E : ExtT) : MapT := ⟨.right, E⟩
abbrev stride (E : ExtT) : MapT := ⟨.stride, E⟩
abbrev lpad (p : Option Nat) (E : ExtT) : MapT := ⟨.lpad p, E⟩
abbrev rpad (p : Option Nat) (E : ExtT) : MapT := ⟨.rpad p, E⟩
/-- `(is_constructible, is_convertible, hard error)` -/
abbrev cvh (d s : MapT) : Bool × Bool × Bool :=
  (Impl.mapConstructible d s, Impl.mapConvertible d s, Impl.mapHardError d s)
abbrev int : ElemT := ⟨0, false⟩
abbrev cint : ElemT := ⟨0, true⟩
abbrev long : ElemT := ⟨1, false⟩
abbrev mds (e : ElemT) (m : MapT) : MdsT := ⟨e, m, ⟨e⟩⟩
abbrev cv (d s : MdsT) : Bool × Bool := (Impl.mdsConstructible d s, Impl.mdsConvertible d s)

-- row "left / right from the same layout"
example : cvh (left E2s) (left E2) = (true, false, false) := by decide +kernel     -- dyn → static: explicit
example : cvh (left E2) (left E2s) = (true, true, false) := by decide +kernel
example : cvh (left E2) (left L2) = (true, false, false) := by decide +kernel      -- long → int: explicit
example : cvh (right L2) (right E2) = (true, true, false) := by decide +kernel
example : cvh (left E2s) (left E2s5) = (false, false, false) := by decide +kernel  -- 4 vs 5
example : cvh (left E2) (left E1) = (false, false, false) := by decide +kernel     -- rank
-- row "from the other of left / right" (`C16_lr_rank`)
example : cvh (left E2) (right E2) = (false, false, false) := by decide +kernel
example : cvh (left E1) (right E1) = (true, true, false) := by decide +kernel
example : cvh (right E1s) (left E1) = (true, false, false) := by decide +kernel
example : cvh (right E0) (left E0) = (true, true, false) := by decide +kernel
-- row "from stride" (`C16_stride_to_lr_explicit`)
example : cvh (left E2) (stride E2) = (true, false, false) := by decide +kernel
example : cvh (right E1) (stride E1) = (true, false, false) := by decide +kernel
example : cvh (left E0) (stride E0) = (true, true, false) := by decide +kernel
-- row "left from left_padded, right from right_padded" and its Mandates
example : cvh (left E2) (lpad (some 4) E2) = (true, true, false) := by decide +kernel
example : cvh (left E2s) (lpad (some 4) E2) = (true, false, false) := by decide +kernel
example : cvh (left E2s) (lpad (some 4) E2s) = (true, true, false) := by decide +kernel
example : cvh (left E2s5) (lpad (some 4) E2s5) = (true, true, true) := by decide +kernel   -- 5 mod 4 ≠ 0
example : cvh (right E2s5) (rpad (some 4) E2s5) = (true, true, true) := by decide +kernel
example : cvh (left E2s5) (lpad (some 4) E2) = (true, false, false) := by decide +kernel
example : cvh (left E2) (rpad (some 4) E2) = (false, false, false) := by decide +kernel
example : cvh (left E1) (rpad (some 4) E1) = (false, false, false) := by decide +kernel
example : cvh (right E2) (rpad (some 4) E2) = (true, true, false) := by decide +kernel
example : cvh (right E1) (lpad (some 4) E1) = (false, false, false) := by decide +kernel
-- row "stride from any unique strided mapping" (`C16_to_stride_implicit`)
example : cvh (stride E2) (left E2) = (true, true, false) := by decide +kernel
example : cvh (stride E2) (left L2) = (true, false, false) := by decide +kernel
example : cvh (stride L2) (right E2) = (true, true, false) := by decide +kernel
example : cvh (stride E2s) (stride E2) = (true, false, false) := by decide +kernel
example : cvh (stride E2) (lpad (some 4) E2) = (true, false, false) := by decide +kernel   -- always explicit
example : cvh (stride E0) (lpad (some 4) E0) = (true, false, false) := by decide +kernel
example : cvh (stride E2) (rpad none E2) = (true, false, false) := by decide +kernel
example : cvh (stride E0) (left E0) = (true, true, false) := by decide +kernel
-- row "left_padded from left" and its Mandates
example : cvh (lpad (some 4) E2) (left E2) = (true, true, false) := by decide +kernel
example : cvh (lpad (some 4) E2s) (left E2) = (true, false, false) := by decide +kernel
example : cvh (lpad (some 4) E2s) (left E2s) = (true, true, false) := by decide +kernel
example : cvh (lpad (some 4) E2s5) (left E2s5) = (true, true, true) := by decide +kernel   -- 8 ≠ 5
example : cvh (rpad (some 4) E2s5) (right E2s5) = (true, true, true) := by decide +kernel
example : cvh (lpad (some 4) E2s5) (left E2) = (true, false, false) := by decide +kernel
example : cvh (lpad (some 8) E2s5) (left E2s8) = (false, false, false) := by decide +kernel
example : cvh (lpad (some 0) E2) (left E2s5) = (true, true, false) := by decide +kernel
example : cvh (lpad (some 4) E2) (right E2) = (false, false, false) := by decide +kernel
example : cvh (lpad (some 4) E0) (right E0) = (false, false, false) := by decide +kernel
example : cvh (rpad (some 4) E2) (right E2) = (true, true, false) := by decide +kernel
example : cvh (rpad (some 4) E1) (left E1) = (false, false, false) := by decide +kernel
-- row "left_padded from stride" (`C16_stride_to_padded_explicit`)
example : cvh (lpad (some 4) E2) (stride E2) = (true, false, false) := by decide +kernel
example : cvh (lpad (some 4) E0) (stride E0) = (true, true, false) := by decide +kernel
example : cvh (rpad (some 4) E2) (stride E2) = (true, false, false) := by decide +kernel
example : cvh (rpad (some 4) E0) (stride E0) = (true, true, false) := by decide +kernel
-- row "left_padded<P> from left_padded<Q>" (`C16_padded_family_explicit`) and its Mandates
example : cvh (lpad none E2) (lpad none E2) = (true, true, false) := by decide +kernel        -- identity
example : cvh (lpad none E2) (lpad (some 4) E2) = (true, false, false) := by decide +kernel
example : cvh (lpad (some 4) E2) (lpad none E2) = (true, false, false) := by decide +kernel
example : cvh (lpad (some 0) E2) (lpad none E2) = (true, false, false) := by decide +kernel
example : cvh (lpad (some 4) E2) (lpad (some 4) L2) = (true, true, false) := by decide +kernel   -- implicit narrowing
example : cvh (lpad (some 4) E2s) (lpad (some 4) E2) = (true, true, false) := by decide +kernel  -- implicit dyn → static
example : cvh (lpad (some 4) E2) (lpad (some 8) E2) = (true, true, true) := by decide +kernel    -- 4 ≠ 8
example : cvh (lpad (some 4) E1) (lpad (some 8) E1) = (true, true, true) := by decide +kernel    -- even for rank 1
example : cvh (lpad none E1) (lpad (some 4) E1) = (true, true, false) := by decide +kernel
example : cvh (lpad none E0) (lpad (some 4) E0) = (true, true, false) := by decide +kernel
example : cvh (rpad (some 4) E2s) (rpad (some 4) E2) = (true, true, false) := by decide +kernel
-- row "left_padded from right_padded"
example : cvh (lpad (some 4) E2) (rpad (some 4) E2) = (false, false, false) := by decide +kernel
example : cvh (lpad (some 4) E1) (rpad (some 4) E1) = (true, true, false) := by decide +kernel
example : cvh (lpad (some 4) E0) (rpad (some 8) E0) = (true, true, false) := by decide +kernel
example : cvh (lpad (some 4) E1s) (rpad (some 4) E1) = (true, false, false) := by decide +kernel
example : cvh (rpad (some 4) E1) (lpad none E1s) = (true, true, false) := by decide +kernel
-- well-formed padded types
example : Impl.mapTypeOK (lpad (some 0) E1s) = false := by decide +kernel
example : Impl.mapTypeOK (lpad (some 0) E0) = true := by decide +kernel
example : Impl.mapTypeOK (rpad (some 0) ⟨.i32, [none, some 5]⟩) = false := by decide +kernel
example : Impl.mapTypeOK (rpad (some 0) ⟨.i32, [some 5, none]⟩) = true := by decide +kernel
-- Impl = Spec on instances
example : Spec.mapRule (left E2s) (left E2) = some true := by decide +kernel
example : Spec.mapRule (left E2) (right E2) = none := by decide +kernel
example : Spec.mapRule (stride L2) (right E2) = some false := by decide +kernel
example : Spec.mapMandateViolated (lpad (some 4) E2s5) (left E2s5) = true := by decide +kernel
example : Spec.mapMandateViolated (left E2s5) (lpad (some 4) E2s5) = true := by decide +kernel
example : Spec.mapMandateViolated (lpad (some 4) E1) (lpad (some 8) E1) = true := by decide +kernel
-- accessor (`C16_acc`)
example : Impl.accConstructible ⟨cint⟩ ⟨int⟩ = true := by decide +kernel
example : Impl.accConstructible ⟨int⟩ ⟨cint⟩ = false := by decide +kernel
example : Impl.accConstructible ⟨int⟩ ⟨long⟩ = false := by decide +kernel
example : Impl.accConstructible ⟨cint⟩ ⟨cint⟩ = true := by decide +kernel
-- mdspan (`C16_mds`, `C16_mds_convertible`)
example : cv (mds cint (right E2)) (mds int (right E2)) = (true, true) := by decide +kernel
example : cv (mds int (right E2)) (mds cint (right E2)) = (false, false) := by decide +kernel
example : cv (mds cint (right E2s)) (mds int (right E2)) = (true, false) := by decide +kernel
example : cv (mds cint (right E2)) (mds int (right E2s)) = (true, true) := by decide +kernel
example : cv (mds int (left E2)) (mds int (right E2)) = (false, false) := by decide +kernel
example : cv (mds int (left E1)) (mds int (right E1)) = (true, true) := by decide +kernel
example : cv (mds int (left E1)) (mds cint (right E1)) = (false, false) := by decide +kernel
example : cv (mds int (stride E2)) (mds int (right E2)) = (true, true) := by decide +kernel
example : cv (mds int (right E2)) (mds int (stride E2)) = (true, false) := by decide +kernel
example : cv (mds int (right E0)) (mds int (stride E0)) = (true, true) := by decide +kernel
example : cv (mds int (lpad (some 4) E2)) (mds int (lpad none E2)) = (true, false) := by decide +kernel
example : cv (mds int (right E2)) (mds int (right E2)) = (true, true) := by decide +kernel
example : Impl.mdsHardError (mds int (left E2s5)) (mds int (lpad (some 4) E2s5)) = true := by decide +kernel
example : Impl.mdsHardError (mds cint (left E2)) (mds int (lpad (some 4) E2)) = false := by decide +kernel
-- index / extent packs (`C16_indexArgs`, `C16_indexCall`, `C16_arrayArg_explicit`): extents<int,dyn,4,dyn>
example : (List.range 5).map (fun n => Impl.indexArgsOK X.rank X.rankDynamic n true true) =
    [false, false, true, true, false] := by decide +kernel
example : Impl.indexArgsOK X.rank X.rankDynamic 2 true false = false := by decide +kernel   -- may throw
example : Impl.indexArgsOK X.rank X.rankDynamic 2 false true = false := by decide +kernel   -- explicit only
example : (List.range 5).map (fun n => Impl.indexCallOK X.rank n true true) =
    [false, false, false, true, false] := by decide +kernel
example : (List.range 5).map (fun n => Impl.arrayArgOK X.rank X.rankDynamic n true true) =
    [false, false, true, true, false] := by decide +kernel
example : Impl.arrayArgExplicit X.rankDynamic 2 = false ∧ Impl.arrayArgExplicit X.rankDynamic 3 = true := by
  decide +kernel
example : Impl.mdsIndexCtorOK (mds int (right X)) 2 true true = true := by decide +kernel
example : Impl.mdsIndexCtorOK (mds int (stride X)) 2 true true = false := by decide +kernel   -- no mapping(extents)
example : Impl.mdsIndexCtorOK (mds int (lpad (some 4) X)) 3 true true = true := by decide +kernel
-- the semantic theorems on instances
example : (convert (.left [2, 3]) .stride) = some (.stride [2, 3] [1, 2]) := by decide +kernel
example : (Layout.stride [2, 3] [1, 2]).span = 6 ∧ (Layout.left [2, 3]).span = 6 := by decide +kernel
example : (Layout.stride [0, 3] [1, 0]).span = 0 := by decide +kernel
end C16bEx

end Mdspan
