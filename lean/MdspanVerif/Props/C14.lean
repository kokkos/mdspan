import MdspanVerif.Lemmas.Machine
import MdspanVerif.Props.C01
/-!
# C14 — index arithmetic is free of undefined behaviour for admissible inputs: `operator()` of layout_left / layout_right

Each theorem of C14 says: for every index type `T`, if the inputs are admissible, the machine-level function
executes no UB and returns exactly the value of the pure function.  In this file admissible means that the span
`prod es` is a value of `T`: an index inside the extents makes every extent positive.  Where extents may be zero
(C14b and after) it is `prod1 es`, the span with zero extents counted as one.
-/
namespace Mdspan

/-- the pure loop ends below the bound that `rightGoM_refines` asks to be representable -/
theorem rightGo_lt (acc : Nat) (es is : List Nat) (hb : InB is es) :
    rightGo acc es is < (acc + 1) * prod es := by
  induction is, es, hb using InB.induction generalizing acc with
  | nil => exact Nat.lt_of_lt_of_eq (Nat.lt_succ_self acc) (Nat.mul_one _).symm
  | cons hi _ ih => exact Nat.lt_of_lt_of_le (ih _) (horner_next hi _)

theorem rightGoM_refines (T : ITy) : ∀ (acc : Nat) (es is : List Nat), InB is es →
    (∀ e ∈ es, (e : Int) ≤ T.hi) →
    (((acc + 1) * prod es : Nat) : Int) ≤ T.hi + 1 →
    rightGoM T acc (toI es) (toI is) = .ok ((rightGo acc es is : Nat) : Int) := by
  intro acc es is hb hrep hadm
  induction is, es, hb using InB.induction generalizing acc with
  | nil =>
    have hacc : (acc : Int) ≤ T.hi :=
      Int.le_of_lt_add_one (natCast_le_of_le (Nat.le_of_eq (Nat.mul_one _).symm) hadm)
    show Except.ok (T.wrap (ITy.u64.wrap acc)) = _
    rw [u64_wrap_id T acc hacc, T.wrap_nat hacc]; rfl
  | @cons i e is es hi hb ih =>
    obtain ⟨he, hrep⟩ := List.forall_mem_cons.mp hrep
    -- the invariant `(acc + 1) * prod es ≤ max + 1` bounds this step and is handed on
    have hnow := horner_now acc e (prod_pos es (inB_pos is es hb))
    exact (hornerStepM_ok T (rightGoM T · (toI es) (toI is)) he hi (natCast_le_of_le hnow hadm)).trans
      (ih (acc * e + i) hrep (natCast_le_of_le (horner_next hi (prod es)) hadm))

/-- **C14, layout_right::operator()**: no UB and the exact offset whenever the index is inside
    the extents and the span is representable, for every index type. -/
theorem C14_right_offset (T : ITy) (es is : List Nat) (hb : InB is es)
    (hrep : ∀ e ∈ es, (e : Int) ≤ T.hi) (hadm : ((prod es : Nat) : Int) ≤ T.hi) :
    rightOffM T (toI es) (toI is) = .ok (((Layout.right es).offset is : Nat) : Int) := by
  cases is, es, hb using InB.induction with
  | nil => rfl
  | @cons i e is es hi hb =>
    exact rightGoM_refines T i es is hb (List.forall_mem_cons.mp hrep).2
      (Int.le_add_one (natCast_le_of_le (Nat.mul_le_mul_right (prod es) hi) hadm))

/-- the Horner step follows the recursive call, whose result is an offset of layout_left over `es`, below `prod es` (C01) -/
theorem leftOff_step_le (e : Nat) {es is : List Nat} (hb : InB is es) : (leftOff es is + 1) * e ≤ prod (e :: es) :=
  Nat.le_trans (Nat.mul_le_mul_right e (C01_range (.left es) trivial is hb)) (Nat.le_of_eq (Nat.mul_comm _ e))

theorem leftOffM_refines (T : ITy) : ∀ (es is : List Nat), InB is es →
    (∀ e ∈ es, (e : Int) ≤ T.hi) → ((prod es : Nat) : Int) ≤ T.hi + 1 →
    leftOffM T (toI es) (toI is) = .ok ((leftOff es is : Nat) : Int) := by
  intro es is hb hrep hadm
  induction is, es, hb using InB.induction with
  | nil => rfl
  | @cons i e is es hi hb ih =>
    obtain ⟨he, hrep⟩ := List.forall_mem_cons.mp hrep
    cases is, es, hb using InB.induction with
    | nil =>
      show Except.ok (i : Int) = .ok ((0 * e + i : Nat) : Int)
      rw [Nat.zero_mul, Nat.zero_add]
    | @cons i' e' is es hi' hb =>
      show (leftOffM T (toI (e' :: es)) (toI (i' :: is)) >>= fun rest => _) = _
      rw [ih hrep (natCast_le_of_le (Nat.le_mul_of_pos_left _ (Nat.zero_lt_of_lt hi)) hadm), ok_bind]
      exact hornerStepM_ok T pure he hi (natCast_le_of_le (leftOff_step_le e ⟨hi', hb⟩) hadm)

/-- **C14, layout_left::operator()** -/
theorem C14_left_offset (T : ITy) (es is : List Nat) (hb : InB is es)
    (hrep : ∀ e ∈ es, (e : Int) ≤ T.hi) (hadm : ((prod es : Nat) : Int) ≤ T.hi) :
    leftOffM T (toI es) (toI is) = .ok (((Layout.left es).offset is : Nat) : Int) :=
  leftOffM_refines T es is hb hrep (Int.le_add_one hadm)

end Mdspan
