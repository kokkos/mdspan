import MdspanVerif.Props.C01
/-!
# C02 — each layout computes exactly its specified offset formula and strides
-/
namespace Mdspan

/-- `stride(r)` of layout_right is the product of the extents to the right of `r` -/
theorem rightStrides_get : ∀ (es : List Nat) (r : Nat), r < es.length →
    (rightStrides es)[r]? = some (prod (es.drop (r + 1)))
  | _ :: _, 0, _ => rfl
  | _ :: es, r + 1, h => rightStrides_get es r (Nat.lt_of_succ_lt_succ h)

theorem leftStridesFrom_get : ∀ (p : Nat) (es : List Nat) (r : Nat), r < es.length →
    (leftStridesFrom p es)[r]? = some (p * prod (es.take r))
  | p, _ :: _, 0, _ => congrArg some (Nat.mul_one p).symm
  | p, e :: es, r + 1, h =>
    (leftStridesFrom_get (p * e) es r (Nat.lt_of_succ_lt_succ h)).trans
      (congrArg some (Nat.mul_assoc ..))

/-- `stride(r)` of layout_left is the product of the extents to the left of `r` -/
theorem leftStrides_get (es : List Nat) (r : Nat) (h : r < es.length) :
    (leftStrides es)[r]? = some (prod (es.take r)) := by
  rw [leftStrides, leftStridesFrom_get 1 es r h, Nat.one_mul]

/-! the `stride(r)` member functions agree with `strides()` (`rightStrides_get`, `leftStrides_get`) -/
theorem rightStride_eq (es : List Nat) (r : Nat) (h : r < es.length) :
    (rightStrides es)[r]? = some (rightStride es r) := rightStrides_get es r h
theorem leftStride_eq (es : List Nat) (r : Nat) (h : r < es.length) :
    (leftStrides es)[r]? = some (leftStride es r) := leftStrides_get es r h

/-- **C02, layout_right**: offset = Σ_r i_r · Π_{k>r} e_k -/
theorem C02_right (es is : List Nat) (h : is.length = es.length) :
    (Layout.right es).offset is = dot is (rightStrides es) := rightOff_eq_dot es is h
/-- **C02, layout_left**: offset = Σ_r i_r · Π_{k<r} e_k -/
theorem C02_left (es is : List Nat) (_h : is.length = es.length) :
    (Layout.left es).offset is = dot is (leftStrides es) := leftOff_eq_dot es is
/-- **C02, layout_stride** uses exactly the strides it was given -/
theorem C02_stride (es ss is : List Nat) : (Layout.stride es ss).offset is = dot is ss := rfl

/-! ### the padded stride: least multiple of the padding not smaller than the extent -/

/-- the `alignment == 0` branch of the code -/
theorem findNextMultiple_zero_left (o : Nat) : findNextMultiple 0 o = 0 := by simp [findNextMultiple]

theorem findNextMultiple_zero_right (a : Nat) : findNextMultiple a 0 = 0 := by
  simp [findNextMultiple]

theorem findNextMultiple_eq_mul (a o : Nat) (ha : 0 < a) :
    ∃ k, findNextMultiple a o = k * a ∧ o ≤ k * a ∧ k * a < o + a := by
  refine ⟨_, if_neg (Nat.ne_of_gt ha), ?_⟩
  have := Nat.div_add_mod' o a
  have := Nat.mod_lt o ha
  rw [Nat.add_mul]
  split <;> omega

theorem findNextMultiple_spec (a o : Nat) (ha : 0 < a) :
    a ∣ findNextMultiple a o ∧ o ≤ findNextMultiple a o ∧
      ∀ m, a ∣ m → o ≤ m → findNextMultiple a o ≤ m := by
  obtain ⟨k, hk, h1, h2⟩ := findNextMultiple_eq_mul a o ha
  rw [hk]
  refine ⟨Nat.dvd_mul_left _ _, h1, fun m ⟨k', hk'⟩ hle => ?_⟩
  subst hk'
  -- a smaller multiple `k' * a` would be at most `k * a - a < o`
  rw [Nat.mul_comm a] at hle ⊢
  refine Nat.mul_le_mul_right _ (Nat.le_of_not_lt fun hlt => ?_)
  have : (k' + 1) * a ≤ k * a := Nat.mul_le_mul_right _ hlt
  rw [Nat.add_mul, Nat.one_mul] at this; omega

/-- the padded stride is never smaller than the extent: constructed mappings satisfy `PadOK…` -/
theorem findNextMultiple_ge (a o : Nat) (ha : 0 < a) : o ≤ findNextMultiple a o :=
  (findNextMultiple_spec a o ha).2.1

theorem findNextMultiple_eq_zero_iff (a o : Nat) (ha : 0 < a) : findNextMultiple a o = 0 ↔ o = 0 :=
  ⟨fun h => Nat.le_zero.mp (h ▸ findNextMultiple_ge a o ha), fun h => h ▸ findNextMultiple_zero_right a⟩

theorem findNextMultiple_fix (q e : Nat) : findNextMultiple q e = e ↔ e % q = 0 := by
  rcases Nat.eq_zero_or_pos q with rfl | hq
  · rw [findNextMultiple_zero_left, Nat.mod_zero]; exact eq_comm
  · obtain ⟨hdvd, hle, hmin⟩ := findNextMultiple_spec q e hq
    refine ⟨fun h => Nat.mod_eq_zero_of_dvd (h ▸ hdvd), fun h => ?_⟩
    exact Nat.le_antisymm (hmin e (Nat.dvd_of_mod_eq_zero h) (Nat.le_refl _)) hle

/-- the expression on the pinned tree agrees with the repaired one on unbounded naturals;
    they differ only in machine arithmetic (F3) -/
theorem findNextMultipleOrig_eq (a o : Nat) : findNextMultipleOrig a o = findNextMultiple a o := by
  rcases Nat.eq_zero_or_pos a with rfl | ha
  · rfl
  · obtain ⟨k, hk, h1, h2⟩ := findNextMultiple_eq_mul a o ha
    rw [hk, findNextMultipleOrig, if_neg (Nat.ne_of_gt ha),
      (Nat.div_eq_iff (y := k) ha).mpr (by omega)]

/-! ### C02, padded layouts: same products with the padded extent replaced by `ps`; no padding for rank 0 and 1 -/

theorem C02_lpad (ps : Nat) (es is : List Nat) (h : is.length = es.length) :
    (Layout.lpad es ps).offset is = dot is (lpadStrides ps es) := lpadOff_eq_dot ps es is h
theorem C02_rpad (ps : Nat) (es is : List Nat) (h : is.length = es.length) :
    (Layout.rpad es ps).offset is = dot is (rpadStrides ps es) := rpadOff_eq_dot ps es is h
theorem C02_lpad_rank1 (ps e i : Nat) : (Layout.lpad [e] ps).offset [i] = i := rfl
theorem C02_rpad_rank1 (ps e i : Nat) : (Layout.rpad [e] ps).offset [i] = i := rfl
theorem lpadStrides_ge2 (ps e e' : Nat) (es : List Nat) :
    lpadStrides ps (e :: e' :: es) = leftStrides (ps :: e' :: es) := lpadStrides_eq ps (e :: e' :: es)

/-! ### `stride(r)` of the padded layouts -/

/-- `layout_left_padded::stride(r)`: the product the loop `lpadStride` (Model/Convert) computes,
    equal by `lpadStride_eq_lpadStrideP` (C08) -/
def lpadStrideP (ps : Nat) (es : List Nat) (r : Nat) : Nat :=
  if r = 0 then 1 else ps * prod ((es.drop 1).take (r - 1))
/-- … of `layout_right_padded`; the loop is `rpadStride` -/
def rpadStrideP (ps : Nat) (es : List Nat) (r : Nat) : Nat :=
  if r + 1 = es.length then 1 else ps * prod (es.dropLast.drop (r + 1))

theorem lpadStride_eq (ps : Nat) (es : List Nat) (r : Nat) (h : r < es.length) :
    (lpadStrides ps es)[r]? = some (lpadStrideP ps es r) := by
  rcases es with _ | ⟨e, es⟩
  · nomatch h
  · rw [lpadStrides_eq]
    refine (leftStrides_get (ps :: es) r h).trans ?_
    cases r <;> rfl

theorem rpadStride_eq (ps : Nat) (es : List Nat) (r : Nat) (h : r < es.length) :
    (rpadStrides ps es)[r]? = some (rpadStrideP ps es r) := by
  obtain ⟨init, el, rfl⟩ := (List.eq_nil_or_concat es).resolve_left
    (List.ne_nil_of_length_pos (Nat.zero_lt_of_lt h))
  rw [List.concat_eq_append, List.length_append] at h
  rw [List.concat_eq_append, rpadStrides_eq, replaceLast_concat, rpadStrideP, List.dropLast_concat,
    List.length_append, rightStrides_get _ r (by rwa [List.length_append])]
  -- `init ++ [ps]` from position `r + 1`: nothing, or the rest of `init` and then `ps`
  split
  · next hr => rw [List.drop_eq_nil_of_le (by rw [List.length_append]; exact Nat.le_of_eq hr.symm)]; rfl
  · next hr =>
    rw [List.drop_append_of_le_length (by simp only [List.length_singleton] at h hr; omega),
      prod_concat, Nat.mul_comm]

/-! ### a default-constructed layout_stride mapping has the row-major strides of its default extents -/

/-- pure mirror of `strides_storage(true_type)`: the running product from the last dimension -/
def defaultStrides (es : List Nat) : List Nat := (leftStridesFrom 1 es.reverse).reverse

/-- **C02 (default construction)**: the loop yields exactly the `layout_right` strides of the
    (default) extents, for every rank -/
theorem C02_default_stride (es : List Nat) : defaultStrides es = rightStrides es :=
  (congrArg List.reverse (rightStrides_reverse es)).symm.trans (List.reverse_reverse _)

example : defaultStrides [4, 65536, 32768] = [2147483648, 32768, 1] := by decide +kernel

end Mdspan
