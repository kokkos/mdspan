import MdspanVerif.Model.ExtentsM
import MdspanVerif.Props.C06
/-!
# C06 — comparison across index types and patterns; typed construction
-/
namespace Mdspan

/-- the constructors' precondition: each extent is a non-negative value of `T` -/
def Ext.Rep (T : ITy) (x : Ext) : Prop := ∀ r, r < x.rank → 0 ≤ x.extent r ∧ x.extent r ≤ T.hi

theorem Ext.Rep.total {T : ITy} {x : Ext} (h : x.Rep T) (r : Nat) : 0 ≤ x.extent r ∧ x.extent r ≤ T.hi :=
  if hr : r < x.rank then h r hr else by
    rw [Ext.extent, List.getElem?_eq_none (Nat.le_of_not_lt hr)]; exact ⟨Int.le_refl 0, T.hi_nonneg⟩

/-- invariant of the comparison loop: `n` positions from `r` on -/
theorem Ext.eqGo_iff (T U : ITy) (a b : Ext) (ha : a.Rep T) (hb : b.Rep U) (n r : Nat) :
    Ext.eqGo T U a b r n = true ↔ ∀ k, k < n → a.extent (k + r) = b.extent (k + r) := by
  induction n generalizing r with
  | zero => exact ⟨fun _ k h => (nomatch h), fun _ => rfl⟩
  | succ n ih =>
    have hv : V.eq ⟨U, b.extent r⟩ ⟨T, a.extent r⟩ = true ↔ a.extent r = b.extent r :=
      (V.eq_iff ⟨U, b.extent r⟩ ⟨T, a.extent r⟩ (hb.total r).1 (hb.total r).2 (ha.total r).1
        (ha.total r).2).trans eq_comm
    rw [Ext.eqGo, Bool.if_false_right, Bool.decide_eq_true, Bool.and_eq_true, hv, ih,
      Nat.forall_lt_succ_left, Nat.zero_add]
    simp only [Nat.add_right_comm _ 1 r]
    exact Iff.rfl

/-- **C06 (comparison)**: two extents compare equal exactly when they have the same rank and
    equal `extent(r)` for every `r` — across index types and static/dynamic patterns -/
theorem C06_eq_iff (T U : ITy) (a b : Ext) (ha : a.Rep T) (hb : b.Rep U) :
    Ext.eqM T U a b = true ↔ a.rank = b.rank ∧ ∀ r, r < a.rank → a.extent r = b.extent r := by
  unfold Ext.eqM
  by_cases hr : a.rank = b.rank
  · rw [if_pos hr, Ext.eqGo_iff T U a b ha hb]; exact (and_iff_right hr).symm
  · rw [if_neg hr]; exact ⟨nofun, fun h => absurd h.1 hr⟩

theorem castArg_id (T S : ITy) (v : Int) (h0 : 0 ≤ v) (hS : v ≤ S.hi) (hT : v ≤ T.hi) : castArg T S v = v := by
  unfold castArg; rw [ITy.wrap_id S v h0 hS, ITy.wrap_id T v h0 hT]

theorem getD_map_zero {f : Int → Int} (h0 : f 0 = 0) (l : List Int) (i : Nat) :
    (l.map f).getD i 0 = f (l.getD i 0) := by
  rw [List.getD_eq_getElem?_getD, List.getD_eq_getElem?_getD, List.getElem?_map]
  cases l[i]? with
  | none => exact h0.symm
  | some _ => rfl

/-- **C06, typed all-values constructors** (integer pack / array / span, one argument of type `S`
    per position): a dynamic position reports its own argument converted to `index_type` -/
theorem C06_ctorM_all (T S : ITy) (p : Pattern) (vals : List Int) (hl : vals.length = p.length)
    (hne : vals.length ≠ rankDyn p) (r : Nat) :
    (Ext.ctorM T S p vals).extent r =
      match p[r]? with
      | some (some s) => (s : Int)
      | some none => castArg T S (vals.getD r 0)
      | none => 0 := by
  unfold Ext.ctorM Ext.ctor
  rw [if_neg (by simpa using hne), C06_fromAll p (vals.map (castArg T S)) (by simpa using hl) r]
  rcases p[r]? with _ | _ | s
  · rfl
  · exact getD_map_zero (castArg_id T S 0 (Int.le_refl 0) S.hi_nonneg T.hi_nonneg) vals r
  · rfl

/-- **C06, typed dynamic-values constructors** (one argument per dynamic position): the `k`-th
    dynamic position reports the `k`-th argument converted to `index_type` -/
theorem C06_ctorM_dyn (T S : ITy) (p : Pattern) (vals : List Int) (hd : vals.length = rankDyn p) (r : Nat) :
    (Ext.ctorM T S p vals).extent r =
      match p[r]? with
      | some (some s) => (s : Int)
      | some none => (vals.map (castArg T S)).getD (dynSlot p r) 0
      | none => 0 := by
  unfold Ext.ctorM Ext.ctor
  rw [if_pos (by simpa using hd)]
  exact C06_fromDyn p _ r

/-- conversion: a dynamic position of the target reports the source's extent converted to the
    target index type — value-preserving when representable -/
theorem C06_convM (T : ITy) (p : Pattern) (src : Ext) (r : Nat) (h : p[r]? = some none) :
    (Ext.convM T p src).extent r = T.wrap (src.extent r) := by
  have h1 : (Ext.convM T p src).extent r = ((convGo src p 0).map T.wrap).getD (dynSlot p r) 0 :=
    Ext.extent_dyn h _
  have h2 : ((convGo src p 0).map T.wrap).getD (dynSlot p r) 0 = T.wrap ((convGo src p 0).getD (dynSlot p r) 0) :=
    getD_map_zero (ITy.wrap_id T 0 (Int.le_refl 0) T.hi_nonneg) _ _
  exact h1.trans (h2.trans (congrArg T.wrap (convGo_spec src p 0 r h)))

-- `extents<int8_t, dyn, 3>{5} == extents<size_t, 5, dyn>{5, 3}`, built from `int` / `size_t` arguments;
-- against rank 1 the comparison is false
example : Ext.eqM .i8 .u64 (Ext.ctorM .i8 .i32 [none, some 3] [5]) (Ext.ctorM .u64 .u64 [some 5, none] [5, 3]) = true := by decide +kernel
example : Ext.eqM .i8 .u64 (Ext.ctorM .i8 .i32 [none, some 3] [5]) (Ext.ctorM .u64 .u64 [none] [5]) = false := by decide +kernel

end Mdspan
