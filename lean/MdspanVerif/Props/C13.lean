import MdspanVerif.Lemmas.Strided
/-!
# C13 — mdspan size/empty agree with the extents; the C++14 fold emulations equal the folds
-/
namespace Mdspan

/-- `_MDSPAN_FOLD_TIMES_RIGHT(extent(Idxs), size_t(1))` = `(e0 * (e1 * (… * 1)))` -/
def foldTimesRight (es : List Nat) (init : Nat) : Nat := es.foldr (· * ·) init
/-- C++14: `__fold_right_times_impl(e0, e1, …, init)` (last argument returned as is) -/
def foldTimesEmu : List Nat → Nat
  | [] => 1
  | [x] => x
  | x :: xs => x * foldTimesEmu xs
/-- `_MDSPAN_FOLD_OR(extent(Idxs) == 0)` and its C++14 emulation `__fold_right_or_impl` -/
def foldOr (bs : List Bool) : Bool := bs.foldr (· || ·) false
def foldOrEmu : List Bool → Bool
  | [] => false
  | b :: bs => b || foldOrEmu bs
/-- `_MDSPAN_FOLD_AND` and `__fold_right_and_impl` -/
def foldAnd (bs : List Bool) : Bool := bs.foldr (· && ·) true
def foldAndEmu : List Bool → Bool
  | [] => true
  | b :: bs => b && foldAndEmu bs

theorem foldTimesEmu_eq : ∀ (es : List Nat) (init : Nat),
    foldTimesEmu (es ++ [init]) = foldTimesRight es init
  | [], _ => rfl
  | [_], _ => rfl
  | e :: e' :: es, init => congrArg (e * ·) (foldTimesEmu_eq (e' :: es) init)
theorem foldOrEmu_eq (bs : List Bool) : foldOrEmu bs = foldOr bs := by
  induction bs with
  | nil => rfl
  | cons b bs ih => exact congrArg (b || ·) ih
theorem foldAndEmu_eq (bs : List Bool) : foldAndEmu bs = foldAnd bs := by
  induction bs with
  | nil => rfl
  | cons b bs ih => exact congrArg (b && ·) ih

/-- `mdspan::size()` and `mdspan::empty()` -/
def mdsSize (es : List Nat) : Nat := foldTimesRight es 1
def mdsEmpty (es : List Nat) : Bool := decide (es.length > 0) && foldOr (es.map (· == 0))

/-- **C13**: size() is the product of all extents (1 for rank 0) -/
theorem C13_size (es : List Nat) : mdsSize es = prod es := by
  induction es with
  | nil => rfl
  | cons e es ih => exact congrArg (e * ·) ih

theorem foldOr_isZero (es : List Nat) : foldOr (es.map (· == 0)) = true ↔ 0 ∈ es := by
  induction es with
  | nil => simp [foldOr]
  | cons e es ih =>
    rw [foldOr] at ih
    simp only [foldOr, List.map_cons, List.foldr_cons, Bool.or_eq_true, beq_iff_eq, List.mem_cons,
      ih, eq_comm (a := 0)]

/-- **C13**: empty() is true exactly when some extent is 0; never for rank 0
    (a list with a member has positive length, so the rank test decides nothing) -/
theorem C13_empty (es : List Nat) : mdsEmpty es = true ↔ 0 ∈ es := by
  rw [mdsEmpty, Bool.and_eq_true, decide_eq_true_eq, foldOr_isZero]
  exact ⟨fun h => h.2, fun h => ⟨List.length_pos_of_mem h, h⟩⟩

theorem C13_empty_iff_size_zero (es : List Nat) : mdsEmpty es = true ↔ mdsSize es = 0 := by
  rw [C13_empty, C13_size, prod_eq_zero_iff]

theorem C13_rank0 : mdsSize [] = 1 ∧ mdsEmpty [] = false := ⟨rfl, rfl⟩

end Mdspan
