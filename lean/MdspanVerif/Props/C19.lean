import MdspanVerif.Model.Conc
import MdspanVerif.Props.C01
/-!
# C19 — concurrent disjoint access through a shared view is schedule independent
-/
namespace Mdspan

/-- an element access through a shared view -/
structure Acc where
  tid : Nat
  isWrite : Bool
  idx : List Nat
  val : Int

/-- the address is a pure function of the (immutable) view state and the index -/
def Acc.toEv (h : Nat) (L : Layout) (a : Acc) : Ev :=
  ⟨a.tid, a.isWrite, h + L.offset a.idx, a.val⟩

/-- threads work on disjoint index sets: an index written by a thread is touched by it only -/
def DisjointIdx (s : List Acc) : Prop :=
  ∀ a1 ∈ s, ∀ a2 ∈ s, a1.isWrite = true → a1.idx = a2.idx → a1.tid = a2.tid

/-- disjoint index sets give race freedom, by injectivity of the mapping (C01) -/
theorem raceFree_of_disjoint (h : Nat) (L : Layout) (hv : L.Valid) (s : List Acc)
    (hb : ∀ a ∈ s, InB a.idx L.extents) (hd : DisjointIdx s) :
    RaceFree (s.map (Acc.toEv h L)) := by
  intro e1 he1 e2 he2 hw ha
  obtain ⟨a1, ha1, rfl⟩ := List.mem_map.mp he1
  obtain ⟨a2, ha2, rfl⟩ := List.mem_map.mp he2
  exact hd a1 ha1 a2 ha2 hw
    (C01_inj L hv a1.idx a2.idx (hb a1 ha1) (hb a2 ha2) (Nat.add_left_cancel ha))

/-- **C19**: for any two schedules of the same per-thread access sequences over disjoint index
    sets of one shared valid view, the final buffer contents coincide and every thread reads the
    same values. -/
theorem C19_schedule_indep (h : Nat) (L : Layout) (hv : L.Valid) (s1 s2 : List Acc) (m : Mem)
    (hb1 : ∀ a ∈ s1, InB a.idx L.extents) (hb2 : ∀ a ∈ s2, InB a.idx L.extents)
    (hd1 : DisjointIdx s1) (hd2 : DisjointIdx s2)
    (hp : ∀ t, prog t (s1.map (Acc.toEv h L)) = prog t (s2.map (Acc.toEv h L))) :
    runMem m (s1.map (Acc.toEv h L)) = runMem m (s2.map (Acc.toEv h L)) ∧
    ∀ t, readLog t m (s1.map (Acc.toEv h L)) = readLog t m (s2.map (Acc.toEv h L)) := by
  have r1 := raceFree_of_disjoint h L hv s1 hb1 hd1
  have r2 := raceFree_of_disjoint h L hv s2 hb2 hd2
  exact ⟨runMem_schedule_indep _ _ m r1 r2 hp, fun t => readLog_schedule_indep t _ _ m r1 r2 (hp t)⟩

end Mdspan
