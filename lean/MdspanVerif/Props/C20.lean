import MdspanVerif.Lemmas.Canonical
/-!
# C20 — debug builds reject layout_stride → left/right conversion with wrong strides
-/
namespace Mdspan

/-- the stride walk of `layout_left::mapping(layout_stride::mapping const&)` without NDEBUG:
    `stride = 1; for r: if (stride != other.stride(r)) abort(); stride *= extent(r);`
    The result is `true` when the walk aborts, `false` when it runs to the end. -/
def walkLeftFrom : Nat → List Nat → List Nat → Bool
  | stride, e :: es, s :: ss => if stride ≠ s then true else walkLeftFrom (stride * e) es ss
  | _, _, _ => false
def walkLeft (es ss : List Nat) : Bool := walkLeftFrom 1 es ss

/-- the walk of layout_right goes from the last dimension to the first -/
def walkRight (es ss : List Nat) : Bool := walkLeftFrom 1 es.reverse ss.reverse

theorem walkLeftFrom_iff : ∀ (p : Nat) (es ss : List Nat), es.length = ss.length →
    (walkLeftFrom p es ss = true ↔ ss ≠ leftStridesFrom p es) := by
  intro p es ss h
  induction es, ss, h using List.induction₂ generalizing p with
  | nil => exact ⟨nofun, fun h => absurd rfl h⟩
  | cons e es s ss _ ih =>
    rw [walkLeftFrom, leftStridesFrom]
    by_cases hps : p = s
    · subst hps
      rw [if_neg (not_not_intro rfl), ih]
      exact not_congr ⟨congrArg _, List.tail_eq_of_cons_eq⟩
    · rw [if_pos hps]
      exact iff_of_true rfl fun h' => hps (List.head_eq_of_cons_eq h').symm

/-- **C20 (layout_left)**: the conversion aborts exactly when the strides are not the canonical
    column-major strides of the same extents; rank 0 never aborts. -/
theorem C20_left (es ss : List Nat) (h : es.length = ss.length) :
    walkLeft es ss = true ↔ ss ≠ leftStrides es := walkLeftFrom_iff 1 es ss h

/-- **C20 (layout_right)** -/
theorem C20_right (es ss : List Nat) (h : es.length = ss.length) :
    walkRight es ss = true ↔ ss ≠ rightStrides es := by
  unfold walkRight
  rw [walkLeftFrom_iff 1 es.reverse ss.reverse (by simp [h]), ← leftStrides, ← rightStrides_reverse]
  exact not_congr List.reverse_inj

/-- valid input never trips the check (the part of C15 about this assertion) -/
theorem C20_canonical_passes (es : List Nat) :
    walkLeft es (leftStrides es) = false ∧ walkRight es (rightStrides es) = false :=
  ⟨Bool.eq_false_iff.mpr fun h => (C20_left es _ (leftStrides_length es).symm).mp h rfl,
   Bool.eq_false_iff.mpr fun h => (C20_right es _ (rightStrides_length es).symm).mp h rfl⟩

end Mdspan
