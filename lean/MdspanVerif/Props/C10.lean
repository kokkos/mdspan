import MdspanVerif.Lemmas.Slices
import MdspanVerif.Props.C01
/-!
# C10 — a submdspan never points or reaches outside its source's span
-/
namespace Mdspan

theorem firsts_inB : ∀ (sls : List Slice) (es : List Nat), SlicesValid sls es →
    anyAtEnd sls es = false → InB (firsts sls) es := by
  intro sls es hv
  induction sls, es, hv using SlicesValid.induction with
  | nil => exact fun _ => trivial
  | cons hv _ ih =>
    rw [anyAtEnd, Bool.or_eq_false_iff]
    exact fun h => ⟨Nat.lt_of_le_of_ne (Slice.first_le hv) (ne_of_beq_false h.1), ih h.2⟩

/-- **C10 (offset)**: the offset reported by submdspan_mapping never exceeds the source's
    required_span_size — including empty slices that start at the end of an extent. -/
theorem C10_offset_le (L : Layout) (hv : L.Valid) (sls : List Slice)
    (hsv : SlicesValid sls L.extents) : subOffset L sls ≤ L.span := by
  unfold subOffset
  cases h : anyAtEnd sls L.extents with
  | true => exact Nat.le_refl _
  | false => exact Nat.le_of_lt (C01_range L hv _ (firsts_inB sls L.extents hsv h))

/-- for the unrepaired offset the statement is false (F1): layout_right (3,4), slices [3,3) and [4,4) -/
example : subOffsetOrig (.right [3, 4]) [.range 3 3, .range 4 4] = 16 ∧ (Layout.right [3, 4]).span = 12 := by
  decide +kernel
example : subOffset (.right [3, 4]) [.range 3 3, .range 4 4] = 12 := by decide +kernel

theorem anyAtEnd_false_of_nonempty : ∀ (sls : List Slice) (es : List Nat), SlicesValid sls es →
    (∀ x ∈ subExts sls es, 0 < x) → anyAtEnd sls es = false := by
  intro sls es hv
  replace hv := hv.idxKeep
  induction hv with
  | nil => exact fun _ => rfl
  | idx hi _ ih =>
    intro hpos
    rw [anyAtEnd, ih hpos, Bool.or_false]; exact beq_false_of_ne (Nat.ne_of_lt hi)
  | keep _ hx hv _ ih =>
    rw [subExts_keep hx, List.forall_mem_cons]
    rintro ⟨hx0, hpos⟩
    rw [anyAtEnd, ih hpos, Bool.or_false]
    exact beq_false_of_ne (Nat.ne_of_lt (Slice.ext_pos_first_lt hv hx hx0))

theorem source_pos_of_nonempty (sl : List Slice) (es : List Nat) (hv : SlicesValid sl es)
    (hne : ∀ x ∈ subExts sl es, 0 < x) : ∀ e ∈ es, 0 < e :=
  inB_pos _ _ (firsts_inB sl es hv (anyAtEnd_false_of_nonempty sl es hv hne))

end Mdspan
