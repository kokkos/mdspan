import MdspanVerif.Props.C02
/-!
# C05 — required_span_size is exact for left/right/stride and safely bounded for padded
-/
namespace Mdspan

/-- the largest multi-index -/
def maxIdx (es : List Nat) : List Nat := es.map (· - 1)

theorem maxIdx_inB (es : List Nat) (h : ∀ e ∈ es, 0 < e) : InB (maxIdx es) es := by
  induction es with
  | nil => trivial
  | cons e es ih =>
    obtain ⟨he, h⟩ := List.forall_mem_cons.mp h
    exact ⟨Nat.sub_lt he Nat.one_pos, ih h⟩

theorem dot_maxIdx : ∀ (es ss : List Nat), dot (maxIdx es) ss = spanM1 (List.zip es ss)
  | _ :: es, _ :: ss => congrArg (_ + ·) (dot_maxIdx es ss)
  | [], _ => rfl
  | _ :: _, [] => rfl

theorem offset_maxIdx (L : Layout) :
    L.offset (maxIdx L.extents) = spanM1 (List.zip L.extents L.strides) := by
  rw [offset_eq_dot L _ (by simp [maxIdx]), dot_maxIdx]

/-! **C05, left/right**: the span is the product of the extents: 0 iff some extent is 0,
    otherwise exactly one more than the largest offset, which is attained. -/

theorem C05_lr_zero (es : List Nat) : spanLR es = 0 ↔ 0 ∈ es := prod_eq_zero_iff es

theorem C05_right_exact (es : List Nat) (h : ∀ e ∈ es, 0 < e) :
    (Layout.right es).span = (Layout.right es).offset (maxIdx es) + 1 := by
  have hm : (Layout.right es).offset (maxIdx es) = spanM1 (List.zip es (rightStrides es)) :=
    offset_maxIdx (.right es)
  rw [hm]; exact (span_right_eq es h).symm

theorem C05_left_exact (es : List Nat) (h : ∀ e ∈ es, 0 < e) :
    (Layout.left es).span = (Layout.left es).offset (maxIdx es) + 1 := by
  have hm : (Layout.left es).offset (maxIdx es) = spanM1 (List.zip es (leftStrides es)) :=
    offset_maxIdx (.left es)
  rw [hm]; exact (span_left_eq es h).symm

/-- **C05, layout_stride**: 0 if any extent is 0 … -/
theorem C05_stride_zero (es ss : List Nat) (hl : es.length = ss.length) (h0 : 0 ∈ es) :
    (Layout.stride es ss).span = 0 := spanStride_zero es ss h0 hl

/-- any strides, any number of them -/
theorem spanStride_exact (es ss : List Nat) (h : ∀ e ∈ es, 0 < e) :
    (Layout.stride es ss).span = (Layout.stride es ss).offset (maxIdx es) + 1 := by
  have hm : (Layout.stride es ss).offset (maxIdx es) = spanM1 (List.zip es ss) := dot_maxIdx es ss
  rw [hm]; exact spanStride_pos es ss h

/-- … otherwise exactly one more than the largest offset (`spanStride_exact`; `_hl` is not needed). -/
theorem C05_stride_exact (es ss : List Nat) (_hl : es.length = ss.length) (h : ∀ e ∈ es, 0 < e) :
    (Layout.stride es ss).span = (Layout.stride es ss).offset (maxIdx es) + 1 :=
  spanStride_exact es ss h

/-- no offset exceeds the one of the largest index (any layout, through its strides) -/
theorem C05_max (L : Layout) (hlen : L.strides.length = L.extents.length) (is : List Nat)
    (hi : InB is L.extents) : L.offset is ≤ L.offset (maxIdx L.extents) := by
  rw [offset_maxIdx]; exact offset_le_spanM1 L hlen is hi

/-- rank 0: one element -/
theorem C05_rank0 : (Layout.left []).span = 1 ∧ (Layout.right []).span = 1 ∧
    (Layout.stride [] []).span = 1 ∧ ∀ ps, (Layout.lpad [] ps).span = 1 ∧ (Layout.rpad [] ps).span = 1 := by
  refine ⟨rfl, rfl, rfl, fun _ => ⟨rfl, rfl⟩⟩

/-! **C05, padded**: at least one more than the largest offset (for a valid mapping with a
    non-empty index space; the statement holds of every layout, it is exact for the other three)
    and, from rank 2 on, equal to the padded stride times the remaining extents. -/

theorem C05_padded_lower (L : Layout) (hv : L.Valid) (hpos : ∀ e ∈ L.extents, 0 < e)
    (_hlen : L.strides.length = L.extents.length) :
    L.offset (maxIdx L.extents) + 1 ≤ L.span := by
  rw [offset_maxIdx]; exact span_ge L hv hpos

theorem C05_lpad_upper (ps e e' : Nat) (es : List Nat) :
    (Layout.lpad (e :: e' :: es) ps).span = ps * prod (e' :: es) := rfl

theorem C05_rpad_upper (ps e e' : Nat) (es : List Nat) :
    (Layout.rpad (e :: e' :: es) ps).span = prod (replaceLast ps (e :: e' :: es)) :=
  rpadSpan_eq ps e e' es

end Mdspan
