import MdspanVerif.Props.C14b
import MdspanVerif.Props.C07
/-!
# C14 — layout_stride: required_span_size (early return, zero extents counted as one), operator(),
`__get_size`, is_exhaustive and default construction
-/
namespace Mdspan

/-! ### layout_stride::required_span_size -/

theorem spanStrideGoM_refines (T : ITy) : ∀ (acc : Nat) (es ss : List Nat), es.length = ss.length →
    (∀ e ∈ es, (e : Int) ≤ T.hi) → (∀ s ∈ ss, (s : Int) ≤ T.hi) →
    ((acc + spanM1 (List.zip es ss) : Nat) : Int) ≤ T.hi →
    spanStrideGoM T acc (toI es) (toI ss) = .ok ((spanStrideGo acc es ss : Nat) : Int) := by
  intro acc es ss hl hre hrs hadm
  induction es, ss, hl using List.induction₂ generalizing acc with
  | nil => rfl
  | cons e es s ss hl ih =>
    obtain ⟨he, hre⟩ := List.forall_mem_cons.mp hre
    obtain ⟨hs, hrs⟩ := List.forall_mem_cons.mp hrs
    rw [List.zip_cons_cons, spanM1, ← Nat.add_assoc] at hadm
    rw [toI_cons, toI_cons, spanStrideGoM, spanStrideGo]
    rcases Nat.eq_zero_or_pos e with rfl | hepos
    · rfl
    · have hsum : ((acc + (e - 1) * s : Nat) : Int) ≤ T.hi := natCast_le_of_le (Nat.le_add_right _ _) hadm
      have hem1 : ((e - 1 : Nat) : Int) ≤ T.hi := natCast_le_of_le (Nat.sub_le e 1) he
      rw [if_neg (Int.natCast_ne_zero.mpr (Nat.ne_of_gt hepos)), if_neg (Nat.ne_of_gt hepos), V.pred_ok T hepos he,
        ok_bind, narrow_id T hem1,
        V.mul_ok T T.common_self hem1 hs (natCast_le_of_le (Nat.le_add_left _ acc) hsum), ok_bind,
        V.add_ok T T.common_promote_right hsum, ok_bind, narrow_id T hsum]
      exact ih (acc + (e - 1) * s) hre hrs hadm

/-- **C14, layout_stride::required_span_size**: no UB and the exact value whenever
    `1 + Σ (max(e,1) - 1)·s` — the span with zero extents counted as one — is representable. -/
theorem C14_span_stride (T : ITy) (es ss : List Nat) (hl : es.length = ss.length)
    (hre : ∀ e ∈ es, (e : Int) ≤ T.hi) (hrs : ∀ s ∈ ss, (s : Int) ≤ T.hi)
    (hadm : ((1 + spanM1 (List.zip es ss) : Nat) : Int) ≤ T.hi) :
    spanStrideM T (toI es) (toI ss) = .ok (((Layout.stride es ss).span : Nat) : Int) :=
  spanStrideGoM_refines T 1 es ss hl hre hrs hadm

/-! ### the type of the fold expressions -/

/-- the type of a right fold `(x₀ ∘ (x₁ ∘ (… ∘ int_literal)))` over `index_type` operands:
    `int` for an empty pack, otherwise the promoted index type -/
def foldTy (T : ITy) {α : Type} (l : List α) : ITy := if l.isEmpty then .i32 else T.promote

theorem ITy.common_foldTy (T : ITy) {α : Type} (l : List α) : ITy.common T (foldTy T l) = T.promote := by
  unfold foldTy; split
  · exact T.common_i32_right
  · exact T.common_promote_right

theorem ITy.common_promote_foldTy (T : ITy) {α : Type} (l : List α) :
    ITy.common T.promote (foldTy T l) = T.promote := by
  unfold foldTy; split
  · exact T.common_promote_i32
  · exact T.common_promote_both

/-! ### layout_stride::operator() -/

theorem dotGoM_refines (T : ITy) (is ss : List Nat) (hl : is.length = ss.length)
    (hri : ∀ i ∈ is, (i : Int) ≤ T.hi) (hrs : ∀ s ∈ ss, (s : Int) ≤ T.hi) (hadm : ((dot is ss : Nat) : Int) ≤ T.hi) :
    dotGoM T (toI is) (toI ss) = .ok ⟨foldTy T is, ((dot is ss : Nat) : Int)⟩ := by
  induction is, ss, hl using List.induction₂ with
  | nil => rfl
  | cons i is s ss hl ih =>
    obtain ⟨hi, hri⟩ := List.forall_mem_cons.mp hri
    obtain ⟨hs, hrs⟩ := List.forall_mem_cons.mp hrs
    rw [dot] at hadm
    rw [toI_cons, toI_cons, dotGoM, V.mul_ok T T.common_self hi hs (natCast_le_of_le (Nat.le_add_right _ _) hadm), ok_bind,
      ih hri hrs (natCast_le_of_le (Nat.le_add_left _ _) hadm), ok_bind]
    exact V.add_ok T (T.common_promote_foldTy is) hadm

/-- **C14, layout_stride::operator()**: no UB and the exact offset `Σ i_r·s_r` whenever the index
    is inside the extents and `1 + Σ (e_r-1)·s_r` is representable. -/
theorem C14_stride_offset (T : ITy) (es ss is : List Nat) (hb : InB is es) (hl : es.length = ss.length)
    (hre : ∀ e ∈ es, (e : Int) ≤ T.hi) (hrs : ∀ s ∈ ss, (s : Int) ≤ T.hi)
    (hadm : ((1 + spanM1 (List.zip es ss) : Nat) : Int) ≤ T.hi) :
    strideOffM T (toI is) (toI ss) = .ok (((Layout.stride es ss).offset is : Nat) : Int) := by
  have hd : ((dot is ss : Nat) : Int) ≤ T.hi :=
    natCast_le_of_le (Nat.le_trans (dot_le_spanM1 is es ss hb hl) (Nat.le_add_left _ 1)) hadm
  rw [strideOffM, dotGoM_refines T is ss ((inB_length _ _ hb).trans hl) (inB_le_hi T is es hb hre) hrs hd, ok_bind]
  show pure (T.wrap (ITy.u64.wrap ((dot is ss : Nat) : Int))) = _
  rw [u64_wrap_id T _ hd, T.wrap_nat hd]
  rfl

example : InB [2, 0, 3] [3, 1, 4] ∧ (∀ e ∈ [3, 1, 4], ((e : Nat) : Int) ≤ ITy.i8.hi) ∧
    (∀ s ∈ [40, 100, 5], ((s : Nat) : Int) ≤ ITy.i8.hi) ∧
    ((1 + spanM1 (List.zip [3, 1, 4] [40, 100, 5]) : Nat) : Int) ≤ ITy.i8.hi := by
  refine ⟨by decide +kernel, by decide +kernel, by decide +kernel, by decide +kernel⟩
example : strideOffM .i8 (toI [2, 0, 3]) (toI [40, 100, 5]) = .ok 95 := by decide +kernel

/-! ### `__get_size` -/

/-- **C14, `__get_size`** (the `size()` fold used by `layout_stride::is_exhaustive`): no UB and the
    exact product when the size with zero extents counted as one is representable. -/
theorem C14_get_size (T : ITy) (es : List Nat) (hrep : ∀ e ∈ es, (e : Int) ≤ T.hi)
    (hadm : ((prod1 es : Nat) : Int) ≤ T.hi) :
    getSizeM T (toI es) = .ok ⟨foldTy T es, ((prod es : Nat) : Int)⟩ := by
  induction es with
  | nil => rfl
  | cons e es ih =>
    obtain ⟨he, hrep⟩ := List.forall_mem_cons.mp hrep
    have hadm' : ((prod1 es : Nat) : Int) ≤ T.hi := natCast_le_of_le (Nat.le_mul_of_pos_left _ (one0_pos e)) hadm
    rw [toI_cons, getSizeM, ih hrep hadm', ok_bind]
    exact V.mul_ok T (T.common_foldTy es) he (natCast_le_of_le (prod_le_prod1 es) hadm')
      (natCast_le_of_le (prod_le_prod1 (e :: es)) hadm)

example : (∀ e ∈ [3, 0, 5, 4], ((e : Nat) : Int) ≤ ITy.i8.hi) ∧ ((prod1 [3, 0, 5, 4] : Nat) : Int) ≤ ITy.i8.hi := by
  decide +kernel
example : getSizeM .i8 (toI [3, 2, 5, 4]) = .ok ⟨.i32, 120⟩ ∧ foldTy .i8 [3, 2, 5, 4] = .i32 := by decide +kernel

/-! ### layout_stride::is_exhaustive -/

theorem argmaxStrideI_toI (best bv r : Nat) (ss : List Nat) :
    argmaxStrideI best (bv : Int) r (toI ss) = argmaxStride best bv r ss := by
  induction ss generalizing best bv r with
  | nil => rfl
  | cons s ss ih =>
    rw [toI_cons, argmaxStrideI, argmaxStride]
    by_cases h : s > bv
    · rw [if_pos h, if_pos (Int.ofNat_lt.mpr h)]; exact ih r s (r + 1)
    · rw [if_neg h, if_neg (fun h' => h (Int.ofNat_lt.mp h'))]; exact ih best bv (r + 1)

theorem zeroOtherThanI_toI (rl r : Nat) (es : List Nat) :
    zeroOtherThanI rl r (toI es) = zeroOtherThan rl r es := by
  induction es generalizing r with
  | nil => rfl
  | cons e es ih =>
    rw [toI_cons, zeroOtherThanI, zeroOtherThan, ih (r + 1)]
    exact congrArg (fun b => b && r != rl || _) (natCast_beq e 0)

/-- **C14, layout_stride::is_exhaustive**: no UB and the exact answer whenever the span
    `1 + Σ (e_r-1)·s_r` (zero extents counted as one) and the size `Π e_r` are representable. -/
theorem C14_is_exhaustive (T : ITy) (es ss : List Nat) (hl : es.length = ss.length)
    (hre : ∀ e ∈ es, (e : Int) ≤ T.hi) (hrs : ∀ s ∈ ss, (s : Int) ≤ T.hi)
    (hadm : ((1 + spanM1 (List.zip es ss) : Nat) : Int) ≤ T.hi)
    (hsz : ((prod es : Nat) : Int) ≤ T.hi) :
    isExhStrideM T (toI es) (toI ss) = .ok (isExhStride es ss) := by
  cases es, ss, hl using List.induction₂ with
  | nil => rfl
  | cons e es s ss hl =>
    have hl' : (e :: es).length = (s :: ss).length := congrArg (· + 1) hl
    show (spanStrideM T (toI (e :: es)) (toI (s :: ss)) >>= fun span => if span = 0 then _ else _) =
      .ok (if (spanStride (e :: es) (s :: ss) == 0) = true then _ else _)
    have hspan : spanStrideM T (toI (e :: es)) (toI (s :: ss)) = .ok ((spanStride (e :: es) (s :: ss) : Nat) : Int) :=
      C14_span_stride T (e :: es) (s :: ss) hl' hre hrs hadm
    rw [hspan, ok_bind]
    by_cases h0 : spanStride (e :: es) (s :: ss) = 0
    · -- the zero-span branches compare and search, but do no arithmetic
      rw [if_pos (Int.natCast_eq_zero.mpr h0), if_pos (beq_iff_eq.mpr h0)]
      cases es, ss, hl using List.induction₂ with
      | nil => exact congrArg Except.ok (natCast_beq s 1)
      | cons e' es s' ss =>
        show Except.ok (!zeroOtherThanI (argmaxStrideI 0 s 1 (toI (s' :: ss))) 0 (toI (e :: e' :: es))) =
          .ok (!zeroOtherThan (argmaxStride 0 s 1 (s' :: ss)) 0 (e :: e' :: es))
        rw [argmaxStrideI_toI, zeroOtherThanI_toI]
    · -- a non-zero span means positive extents: the size is admissible and the span is `1 + Σ`
      have hpos := pos_of_not_mem_zero (e :: es) fun hz => h0 (spanStride_zero _ (s :: ss) hz hl')
      have hsz1 : ((prod1 (e :: es) : Nat) : Int) ≤ T.hi := prod1_eq_prod _ hpos ▸ hsz
      have hspanN : ((spanStride (e :: es) (s :: ss) : Nat) : Int) ≤ T.hi := by
        rw [spanStride, spanStrideGo_pos 1 (e :: es) (s :: ss) hpos]; exact hadm
      rw [if_neg (fun h => h0 (Int.natCast_eq_zero.mp h)), if_neg (fun h => h0 (beq_iff_eq.mp h)), ok_bind,
        C14_get_size T (e :: es) hre hsz1, ok_bind, T.wrap_nat hsz, V.eq_nat hspanN hsz]
      rfl

/-- the same under the hypothesis in the form `Π max(e_r,1) ≤ max` -/
theorem C14_is_exhaustive' (T : ITy) (es ss : List Nat) (hl : es.length = ss.length)
    (hre : ∀ e ∈ es, (e : Int) ≤ T.hi) (hrs : ∀ s ∈ ss, (s : Int) ≤ T.hi)
    (hadm : ((1 + spanM1 (List.zip es ss) : Nat) : Int) ≤ T.hi)
    (hsz : ((prod1 es : Nat) : Int) ≤ T.hi) :
    isExhStrideM T (toI es) (toI ss) = .ok (isExhStride es ss) :=
  C14_is_exhaustive T es ss hl hre hrs hadm (natCast_le_of_le (prod_le_prod1 es) hsz)

/-- for strides that satisfy the constructor's precondition (unique mapping) the size never
    exceeds the span, so the span admissibility alone suffices -/
theorem C14_is_exhaustive_valid (T : ITy) (es ss : List Nat) (hv : ValidStrides es ss)
    (hre : ∀ e ∈ es, (e : Int) ≤ T.hi) (hrs : ∀ s ∈ ss, (s : Int) ≤ T.hi)
    (hadm : ((1 + spanM1 (List.zip es ss) : Nat) : Int) ≤ T.hi) :
    isExhStrideM T (toI es) (toI ss) = .ok (isExhStride es ss) := by
  apply C14_is_exhaustive T es ss hv.1 hre hrs hadm
  by_cases h0 : 0 ∈ es
  · rw [(prod_eq_zero_iff es).mpr h0]; exact T.hi_nonneg
  · exact natCast_le_of_le (Nat.add_comm .. ▸ hv.prod_le (pos_of_not_mem_zero es h0)) hadm

example : (∀ e ∈ [3, 2, 4], ((e : Nat) : Int) ≤ ITy.i8.hi) ∧ (∀ s ∈ [1, 12, 3], ((s : Nat) : Int) ≤ ITy.i8.hi) ∧
    ((1 + spanM1 (List.zip [3, 2, 4] [1, 12, 3]) : Nat) : Int) ≤ ITy.i8.hi ∧
    ((prod [3, 2, 4] : Nat) : Int) ≤ ITy.i8.hi := by decide +kernel
example : isExhStrideM .i8 (toI [3, 2, 4]) (toI [1, 12, 3]) = .ok true ∧
    isExhStrideM .i8 (toI [3, 0, 4]) (toI [1, 3, 12]) = .ok false := by decide +kernel

/-- the size hypothesis cannot be dropped for strides that violate the precondition of the
    constructor (here: all strides zero, span 1, size 2³²) -/
example : isExhStrideM .i32 (toI [65536, 65536]) (toI [0, 0]) = .error .overflow := by decide +kernel

/-! ### default construction (`strides_storage(true_type)`)

`index_type stride = 1; for (r = rank-1; r >= 0; r--) { s[r] = stride; stride *= extent(r); }`:
the running product is also formed in the *last* iteration (its value is discarded), so the loop is
free of undefined behaviour when the product of all extents - zero extents counted as one -
is representable.
-/

theorem defaultStridesGoM_refines (T : ITy) (acc : Nat) (es : List Nat)
    (hadm : ((one0 acc * prod1 es : Nat) : Int) ≤ T.hi) :
    defaultStridesGoM T acc (toI es) = .ok (toI (leftStridesFrom acc es)) := by
  induction es generalizing acc with
  | nil => rfl
  | cons e es ih =>
    have ⟨hm, hnext⟩ := mulAssignM_prod1 T hadm
    rw [toI_cons, defaultStridesGoM, hm, ok_bind, ih (acc * e) hnext]
    rfl

/-- **C14 (default construction of layout_stride)**: no undefined behaviour, and the strides are the
    row-major strides of the extents, whenever the index space (zero extents counted as one) is
    representable in the index type. -/
theorem C14_default_strides (T : ITy) (es : List Nat) (hrep : ∀ e ∈ es, (e : Int) ≤ T.hi)
    (hadm : ((prod1 es : Nat) : Int) ≤ T.hi) :
    defaultStridesM T (toI es) = .ok (toI (rightStrides es)) := by
  have hgo : defaultStridesGoM T 1 (toI es.reverse) = _ :=
    defaultStridesGoM_refines T 1 es.reverse (by rw [prod1_reverse]; exact (Nat.one_mul _).symm ▸ hadm)
  rw [defaultStridesM, toI_reverse, hgo, ok_bind, ← C02_default_stride, defaultStrides, ← toI_reverse]
  rfl

/-- `extents<int, 65536, 65536>` default-constructs with undefined behaviour (its index space is not
    representable), `extents<int, 65536, 32767>` does not -/
example : defaultStridesM .i32 [65536, 65536] = .error .overflow ∧
    defaultStridesM .i32 [65536, 32767] = .ok [32767, 1] := by decide +kernel

end Mdspan
