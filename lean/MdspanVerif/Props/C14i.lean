import MdspanVerif.Props.C14g
import MdspanVerif.Props.C14h
import MdspanVerif.Lemmas.SubAdm
import MdspanVerif.Props.C04c
import MdspanVerif.Props.C10
import MdspanVerif.Model.SubMapM
/-!
# C14 — transport theorem for the `sub` family: `subAdm` ⇒ `subMappingM` is UB-free and exact

`subMappingM` is the mirror of the whole of `submdspan_mapping` that is run against the C++, and
`subAdm` the driver's predicate.  The theorems `C14_sub_mapping…` are the one-step theorem
`SubRes.Rep.step` (a record that describes a view, `SubRes.Rep`, is taken to the record of the
sub-view) on the record of the driver's inputs.

The conjunct `strideRepB` of `subAdm` (the stride of every `strided_slice` is a value of the index
type) is needed: admissibility of the mapping and validity of the slices bound every other slice
member by an extent, but validity only asks `0 < stride`, and `SliceI` members are `Int`s.  A
stride outside the index type is converted when it enters the arithmetic and
then either divides by zero or selects other elements than the pure layer says (examples at the end
of the file).  The driver always passes `index_type` values (`SliceI.wrapT T`), for which
`strideRepB` holds.
-/
namespace Mdspan

deriving instance DecidableEq for SubRes

/-! ### the `Int` inputs that `subAdm` accepts are images of the `Nat` layer (`toI`, `toSI`), and the
    two layers agree on them -/

theorem toI_toNat (es : List Int) (h : es.any (· < 0) = false) : toI (es.map Int.toNat) = es := by
  induction es with
  | nil => rfl
  | cons e es ih =>
    rw [List.any_cons, Bool.or_eq_false_iff, decide_eq_false_iff_not] at h
    rw [List.map_cons, toI_cons, ih h.2, Int.toNat_of_nonneg (Int.not_lt.mp h.1)]

theorem toSlice_toI (s : SliceI) (t : Slice) (h : toSlice s = some t) : s = t.toI := by
  cases s <;> simp only [toSlice, Option.ite_none_left_eq_some, Option.some.injEq, Bool.or_eq_true,
    decide_eq_true_eq, not_or, Int.not_lt] at h
  · obtain ⟨hi, rfl⟩ := h; simp only [Slice.toI, Int.toNat_of_nonneg hi]
  · obtain ⟨⟨hb, he⟩, rfl⟩ := h; simp only [Slice.toI, Int.toNat_of_nonneg, hb, he]
  · subst h; rfl
  · obtain ⟨⟨⟨ho, hx⟩, hs⟩, rfl⟩ := h; simp only [Slice.toI, Int.toNat_of_nonneg, ho, hx, hs]

theorem mapM_toSlice (sls : List SliceI) (sl : List Slice) (h : sls.mapM toSlice = some sl) :
    sls = toSI sl := by
  induction sls generalizing sl with
  | nil => cases h; rfl
  | cons s sls ih =>
    rw [List.mapM_cons] at h
    obtain ⟨t, h1, h⟩ := Option.bind_eq_some_iff.mp h
    obtain ⟨ts, h2, h⟩ := Option.bind_eq_some_iff.mp h
    cases h
    rw [toSI_cons, ← toSlice_toI s t h1, ← ih ts h2]

theorem slicesValidB_sound (sl : List Slice) (es : List Nat) (h : slicesValidB sl es = true) :
    SlicesValid sl es := by
  induction sl generalizing es with
  | nil => cases es with
    | nil => trivial
    | cons _ _ => cases h
  | cons s sl ih =>
    cases es with
    | nil => cases h
    | cons e es =>
      simp only [slicesValidB, Bool.and_eq_true] at h
      refine ⟨?_, ih es h.2⟩
      have h1 := h.1
      cases s with
      | full => trivial
      | _ => simpa only [Slice.Valid, Bool.and_eq_true, Bool.or_eq_true, decide_eq_true_eq, beq_iff_eq] using h1

theorem toKind_isIdx (s : Slice) : s.toI.toKind.isIdx = s.isIdx := by cases s <;> rfl
theorem toKind_isFull (s : Slice) : s.toI.toKind.isFull = s.isFull := by cases s <;> rfl
theorem toKind_isRange (s : Slice) : s.toI.toKind.isRange = s.isRange := by cases s <;> rfl

theorem preserveLeft_kinds (sl : List Slice) :
    preserveLeft ((toSI sl).map SliceI.toKind) = preserveLeft sl := by
  rw [C09_preserveLeft, C09_preserveLeft, toSI, List.map_map]
  exact presLeftSpec_map _ toKind_isIdx toKind_isFull toKind_isRange sl

theorem preserveRight_kinds (sl : List Slice) :
    preserveRight ((toSI sl).map SliceI.toKind) = preserveRight sl := by
  rw [C09_preserveRight, C09_preserveRight, toSI, List.map_map]
  exact presRightSpec_map _ toKind_isIdx toKind_isFull toKind_isRange sl

theorem first_toI (s : Slice) : s.toI.first = (s.first : Int) := by cases s <;> rfl

theorem anyAtEndI_toI (sl : List Slice) (es : List Nat) :
    anyAtEndI (toSI sl) (toI es) = anyAtEnd sl es := by
  induction sl generalizing es with
  | nil => rfl
  | cons s sl ih =>
    cases es with
    | nil => rfl
    | cons e es => simp only [toSI_cons, toI_cons, anyAtEndI, anyAtEnd, first_toI, natCast_beq, ih es]

/-! ### slice members and the offset are values of the index type -/

theorem Slice.Rep.of_valid (T : ITy) (s : Slice) (e : Nat) (hv : s.Valid e) (he : (e : Int) ≤ T.hi)
    (hs : s.toI.strideRepB T = true) : s.Rep T := by
  cases s with
  | idx i => exact natCast_le_of_le (Nat.le_of_lt hv) he
  | range b e' => exact ⟨natCast_le_of_le (Nat.le_trans hv.1 hv.2) he, natCast_le_of_le hv.2 he⟩
  | full => trivial
  | strided o x st =>
    exact ⟨natCast_le_of_le (Nat.le_trans (Nat.le_add_right o x) hv.1) he,
      natCast_le_of_le (Nat.le_trans (Nat.le_add_left x o) hv.1) he, of_decide_eq_true hs⟩

theorem Slice.Rep.of_slicesValid (T : ITy) (sl : List Slice) (es : List Nat) (hv : SlicesValid sl es)
    (hre : ∀ e ∈ es, (e : Int) ≤ T.hi) (hs : strideRepB T (toSI sl) = true) : ∀ s ∈ sl, s.Rep T := by
  induction sl, es, hv using SlicesValid.induction with
  | nil => exact fun _ h => nomatch h
  | cons h _ ih =>
    rw [strideRepB, toSI_cons, List.all_cons, Bool.and_eq_true] at hs
    obtain ⟨he, hre⟩ := List.forall_mem_cons.mp hre
    exact List.forall_mem_cons.mpr ⟨Slice.Rep.of_valid T _ _ h he hs.1, ih hre hs.2⟩

theorem firsts_wrap (T : ITy) (sl : List Slice) (es : List Nat) (hv : SlicesValid sl es)
    (hre : ∀ e ∈ es, (e : Int) ≤ T.hi) : (toSI sl).map (fun s => T.wrap s.first) = toI (firsts sl) := by
  induction sl, es, hv using SlicesValid.induction with
  | nil => rfl
  | cons h _ ih =>
    obtain ⟨he, hre⟩ := List.forall_mem_cons.mp hre
    rw [toSI_cons, List.map_cons, first_toI, T.wrap_nat (natCast_le_of_le (Slice.first_le h) he), ih hre]
    rfl

/-- `detail::sub_offset`: the at-end test, then `required_span_size()` or `mapping(first_of(slices)...)` -/
theorem sub_offset_ok (T : ITy) (L : Layout) (sl : List Slice) (h : L.admB T = true)
    (hv : SlicesValid sl L.extents) :
    (if anyAtEndI (toSI sl) L.toI.extents then L.toI.spanM T
      else L.toI.offM T ((toSI sl).map (fun s => T.wrap s.first))) =
      .ok ((subOffset L sl : Nat) : Int) ∧ ((subOffset L sl : Nat) : Int) ≤ T.hi := by
  rw [L.toI_extents, anyAtEndI_toI, firsts_wrap T sl _ hv (admB_elim T L h).2.2.1]
  unfold subOffset
  cases hae : anyAtEnd sl L.extents with
  | true => exact ⟨C14_adm_span T L h, admB_span_le T L h⟩
  | false =>
    have hb := firsts_inB sl L.extents hv hae
    exact ⟨C14_adm_offset T L (firsts sl) h hb,
      natCast_le_of_le (Nat.le_of_lt (admB_offset_lt T L h hb)) (admB_span_le T L h)⟩

/-! ### `subMappingM` with the per-kind parts as parameters -/

/-- `subMappingM` with what depends on the source layout as parameters: the mapping `L` (for its
    member functions), the "keep the layout" decision, the canonical strides of a kept result, the
    source strides.  The three equations below hold by evaluating the string matches. -/
def subMappingG (T : ITy) (L : LayoutI) (keep : Bool) (canon : List Int → M (List Int))
    (src : M (List Int)) (sls : List SliceI) : M SubRes := do
  let xs ← subExtsM T sls L.extents
  let offv ← (if anyAtEndI sls L.extents then L.spanM T
    else L.offM T (sls.map (fun s => T.wrap s.first)))
  if keep then do
    let strs ← canon xs
    pure { off := ITy.u64.wrap offv, exts := xs, kind := L.kindStr, strs := strs }
  else do
    let s ← src
    let strs ← subStridesM T true sls s
    pure { off := ITy.u64.wrap offv, exts := xs, kind := "stride", strs := strs }

-- `(rfl)`, not `rfl`: the test whether the equation could serve `dsimp` walks the matches once more
theorem subMappingM_left (T : ITy) (es ss : List Int) (sls : List SliceI) :
    subMappingM T "left" es ss sls = subMappingG T (.left es) (preserveLeft (sls.map SliceI.toKind))
      (fun xs => (LayoutI.left xs).stridesM T) ((LayoutI.left es).stridesM T) sls := (rfl)

theorem subMappingM_right (T : ITy) (es ss : List Int) (sls : List SliceI) :
    subMappingM T "right" es ss sls = subMappingG T (.right es) (preserveRight (sls.map SliceI.toKind))
      (fun xs => (LayoutI.right xs).stridesM T) ((LayoutI.right es).stridesM T) sls := (rfl)

theorem subMappingM_stride (T : ITy) (es ss : List Int) (sls : List SliceI) :
    subMappingM T "stride" es ss sls =
      subMappingG T (.stride es ss) false (fun _ => pure []) (pure ss) sls := (rfl)

section
variable {T : ITy} {L : LayoutI} {canon : List Int → M (List Int)} {src : M (List Int)}
  {sls : List SliceI} {xs strs : List Int} {offv : Int}
  (hx : subExtsM T sls L.extents = .ok xs)
  (ho : (if anyAtEndI sls L.extents then L.spanM T
    else L.offM T (sls.map (fun s => T.wrap s.first))) = .ok offv)
  (hw : ITy.u64.wrap offv = offv)
include hx ho hw

theorem subMappingG_keep (hs : canon xs = .ok strs) :
    subMappingG T L true canon src sls = .ok ⟨offv, xs, L.kindStr, strs⟩ := by
  unfold subMappingG
  rw [hx, ok_bind, ho, ok_bind, if_pos rfl, hs, ok_bind, hw]; rfl

theorem subMappingG_strided {s : List Int} (hsrc : src = .ok s) (hs : subStridesM T true sls s = .ok strs) :
    subMappingG T L false canon src sls = .ok ⟨offv, xs, "stride", strs⟩ := by
  unfold subMappingG
  rw [hx, ok_bind, ho, ok_bind, if_neg Bool.false_ne_true, hsrc, ok_bind, hs, ok_bind, hw]; rfl
end

/-! ### a record that describes a view, and one `submdspan_mapping` from it -/

/-- the pure-layer result of `submdspan_mapping` as a machine-layer record -/
def subResP (L : Layout) (sl : List Slice) : SubRes :=
  { off := ((subOffset L sl : Nat) : Int), exts := toI (subLayout L sl).extents,
    kind := (subLayout L sl).toI.kindStr, strs := toI (subLayout L sl).strides }

/-- a view as a machine-layer record -/
def View.toRes (v : View) : SubRes :=
  { off := (v.off : Int), exts := toI v.L.extents, kind := v.L.toI.kindStr, strs := toI v.L.strides }

/-- the record `r` describes the view `v`: as `View.toRes`, except that the stride member counts
    only for `layout_stride` (`submdspan_mapping` of `layout_left` / `layout_right` never reads
    it, and the driver passes none) -/
structure SubRes.Rep (r : SubRes) (v : View) : Prop where
  off : r.off = (v.off : Int)
  exts : r.exts = toI v.L.extents
  kind : r.kind = v.L.toI.kindStr
  strs : r.kind = "stride" → r.strs = toI v.L.strides

theorem View.toRes_rep (v : View) : v.toRes.Rep v := ⟨rfl, rfl, rfl, fun _ => rfl⟩

/-- one `submdspan_mapping` from a record that describes a view with an admissible mapping: no
    undefined behaviour, and the record of the pure-layer result -/
theorem SubRes.Rep.step (T : ITy) {r : SubRes} {v : View} (hr : r.Rep v) (sl : List Slice)
    (hL : v.L.Std3) (h : v.L.admB T = true) (hv : SlicesValid sl v.L.extents)
    (hs : strideRepB T (toSI sl) = true) :
    subMappingM T r.kind r.exts r.strs (toSI sl) = .ok (subResP v.L sl) := by
  have hstrs : v.L.toI.kindStr = "stride" → r.strs = toI v.L.strides :=
    fun hk => hr.strs (hr.kind.trans hk)
  rw [hr.kind, hr.exts]
  generalize v.L = L at hL h hv hstrs ⊢
  obtain ⟨_, _, hre, hrs⟩ := admB_elim T L h
  have hrep := Slice.Rep.of_slicesValid T sl _ hv hre hs
  have hx : subExtsM T (toSI sl) L.toI.extents = .ok (toI (subExts sl L.extents)) := by
    rw [L.toI_extents]; exact C14_sub_extents T sl _ hv hre hrep
  obtain ⟨ho, hob⟩ := sub_offset_ok T L sl h hv
  have hw := u64_wrap_id T _ hob
  have hsrc := C14_adm_strides T L (admB_strides_length T L h) h
  have hsub := C14_sub_strides T sl L.strides hrs hrep (subStrides_rep T L sl hL h hv)
  -- either branch of `subMappingG` returns the record of the result mapping `R = subLayout L sl`
  have kept {canon : List Int → M (List Int)} {src : M (List Int)} (R : Layout) (e : subLayout L sl = R)
      (hk : ∃ xs, R = .left xs ∨ R = .right xs)
      (hc : canon (toI (subExts sl L.extents)) = R.toI.stridesM T) (hkind : L.toI.kindStr = R.toI.kindStr) :
      subMappingG T L.toI true canon src (toSI sl) = .ok (subResP L sl) := by
    subst e
    have hR := subLayout_admB_kept T L sl h hv hk
    rw [subResP, subLayout_extents, ← hkind]
    exact subMappingG_keep hx ho hw (hc.trans (C14_adm_strides T _ (admB_strides_length T _ hR) hR))
  have strided {canon : List Int → M (List Int)} {src : M (List Int)} (hsrc : src = .ok (toI L.strides))
      (e : subLayout L sl = .stride (subExts sl L.extents) (subStrides sl L.strides)) :
      subMappingG T L.toI false canon src (toSI sl) = .ok (subResP L sl) := by
    rw [subResP, e]; exact subMappingG_strided hx ho hw hsrc hsub
  obtain ⟨es, ss, rfl | rfl | rfl⟩ := hL
  · show subMappingM T "left" (toI es) r.strs (toSI sl) = _
    rw [subMappingM_left, preserveLeft_kinds]
    cases hp : preserveLeft sl with
    | true =>
      have hR : subLayout (.left es) sl = .left (subExts sl es) := if_pos hp
      exact kept _ hR ⟨_, Or.inl rfl⟩ (hc := rfl) (hkind := rfl)
    | false =>
      have hR : subLayout (.left es) sl = .stride (subExts sl es) (subStrides sl (leftStrides es)) :=
        if_neg (Bool.eq_false_iff.mp hp)
      exact strided hsrc hR
  · show subMappingM T "right" (toI es) r.strs (toSI sl) = _
    rw [subMappingM_right, preserveRight_kinds]
    cases hp : preserveRight sl with
    | true =>
      have hR : subLayout (.right es) sl = .right (subExts sl es) := if_pos hp
      exact kept _ hR ⟨_, Or.inr rfl⟩ (hc := rfl) (hkind := rfl)
    | false =>
      have hR : subLayout (.right es) sl = .stride (subExts sl es) (subStrides sl (rightStrides es)) :=
        if_neg (Bool.eq_false_iff.mp hp)
      exact strided hsrc hR
  · show subMappingM T "stride" (toI es) r.strs (toSI sl) = _
    rw [hstrs rfl, subMappingM_stride]
    exact strided rfl rfl

/-! ### the driver's inputs: `srcLayout` and `subAdm` -/

theorem srcLayout_extents (kind : String) (es ss : List Int) :
    (srcLayout kind es ss).extents = es.map Int.toNat := by
  unfold srcLayout; split <;> rfl

theorem srcLayout_std3 (kind : String) (es ss : List Int) : (srcLayout kind es ss).Std3 := by
  refine ⟨es.map Int.toNat, ss.map Int.toNat, ?_⟩
  unfold srcLayout
  split
  · exact Or.inl rfl
  · exact Or.inr (Or.inl rfl)
  · exact Or.inr (Or.inr rfl)

theorem srcLayout_stride (es ss : List Int) :
    srcLayout "stride" es ss = .stride (es.map Int.toNat) (ss.map Int.toNat) := by simp [srcLayout]

theorem kindStr_srcLayout (kind : String) (es ss : List Int)
    (hk : kind = "left" ∨ kind = "right" ∨ kind = "stride") :
    (srcLayout kind es ss).toI.kindStr = kind := by
  rcases hk with rfl | rfl | rfl
  · rw [srcLayout]; rfl
  · rw [srcLayout]; rfl
  · rw [srcLayout_stride]; rfl

theorem srcLayout_rep (kind : String) (es ss : List Int) (o : Nat)
    (hk : kind = "left" ∨ kind = "right" ∨ kind = "stride")
    (hes : es.any (· < 0) = false) (hss : ss.any (· < 0) = false) :
    SubRes.Rep { off := (o : Int), exts := es, kind := kind, strs := ss } ⟨o, srcLayout kind es ss⟩ :=
  ⟨rfl, by rw [srcLayout_extents]; exact (toI_toNat es hes).symm, (kindStr_srcLayout kind es ss hk).symm,
    by rintro rfl; rw [srcLayout_stride]; exact (toI_toNat ss hss).symm⟩

theorem subAdm_elim (T : ITy) (kind : String) (es ss : List Int) (sls : List SliceI)
    (h : subAdm T kind es ss sls = true) :
    es.any (· < 0) = false ∧ ss.any (· < 0) = false ∧
      ∃ sl, sls.mapM toSlice = some sl ∧ (srcLayout kind es ss).admB T = true ∧
        slicesValidB sl (es.map Int.toNat) = true ∧ strideRepB T sls = true := by
  unfold subAdm at h
  split at h
  · cases h
  · rename_i hneg
    simp only [Bool.or_eq_true, not_or, Bool.not_eq_true] at hneg
    refine ⟨hneg.1, hneg.2, ?_⟩
    cases hsl : sls.mapM toSlice with
    | none => simp only [hsl] at h; cases h
    | some sl =>
      simp only [hsl, Bool.and_eq_true] at h
      exact ⟨sl, rfl, h.1.1, h.1.2, h.2⟩

theorem sub_mapping_adm (T : ITy) (kind : String) (es ss : List Int) (sls : List SliceI)
    (hk : kind = "left" ∨ kind = "right" ∨ kind = "stride")
    (hadm : subAdm T kind es ss sls = true) :
    ∃ sl : List Slice, sls.mapM toSlice = some sl ∧ (srcLayout kind es ss).admB T = true ∧
      SlicesValid sl (srcLayout kind es ss).extents ∧
      subMappingM T kind es ss sls = .ok (subResP (srcLayout kind es ss) sl) := by
  obtain ⟨hes, hss, sl, hsl, hL, hvb, hrep⟩ := subAdm_elim T kind es ss sls hadm
  have hv : SlicesValid sl (srcLayout kind es ss).extents := by
    rw [srcLayout_extents]; exact slicesValidB_sound sl _ hvb
  refine ⟨sl, hsl, hL, hv, ?_⟩
  rw [mapM_toSlice sls sl hsl] at hrep ⊢
  exact (srcLayout_rep kind es ss 0 hk hes hss).step T sl (srcLayout_std3 kind es ss) hL hv hrep

/-! ### the transport theorem -/

/-- **C14, `submdspan_mapping` as a whole**, as one equation: on admissible inputs `subMappingM`
    executes no undefined behaviour and returns exactly the record of the pure-layer result. -/
theorem C14_sub_mapping_eq (T : ITy) (kind : String) (es ss : List Int) (sls : List SliceI)
    (hk : kind = "left" ∨ kind = "right" ∨ kind = "stride")
    (hadm : subAdm T kind es ss sls = true) :
    ∃ sl : List Slice, sls.mapM toSlice = some sl ∧
      subMappingM T kind es ss sls = .ok (subResP (srcLayout kind es ss) sl) := by
  obtain ⟨sl, hsl, _, _, hm⟩ := sub_mapping_adm T kind es ss sls hk hadm
  exact ⟨sl, hsl, hm⟩

theorem subResP_layout (L : Layout) (sl : List Slice) :
    match subLayout L sl with
    | .left xs => (subResP L sl).kind = "left" ∧ (subResP L sl).exts = xs.map Int.ofNat ∧
        (subResP L sl).strs = (leftStrides xs).map Int.ofNat
    | .right xs => (subResP L sl).kind = "right" ∧ (subResP L sl).exts = xs.map Int.ofNat ∧
        (subResP L sl).strs = (rightStrides xs).map Int.ofNat
    | _ => (subResP L sl).kind = "stride" ∧
        (subResP L sl).strs = (subStrides sl L.strides).map Int.ofNat := by
  unfold subResP
  rcases subLayout_cases L sl with ⟨es, rfl, _, h⟩ | ⟨es, rfl, _, h⟩ | h <;> rw [h]
  · exact ⟨rfl, rfl, rfl⟩
  · exact ⟨rfl, rfl, rfl⟩
  · exact ⟨rfl, rfl⟩

/-- **C14, `submdspan_mapping` as a whole** (transport theorem of the `sub` family):
    `C14_sub_mapping_eq` with the record spelt out: (a) the offset is `subOffset`, (b) the extents are
    `subExts`, (c) kind and strides are those of `subLayout` — a kept `layout_left` / `layout_right`
    with the canonical strides of the result extents, otherwise `layout_stride` with `subStrides`. -/
theorem C14_sub_mapping (T : ITy) (kind : String) (es ss : List Int) (sls : List SliceI)
    (hk : kind = "left" ∨ kind = "right" ∨ kind = "stride")
    (hadm : subAdm T kind es ss sls = true) :
    ∃ (sl : List Slice) (r : SubRes),
      sls.mapM toSlice = some sl ∧
      subMappingM T kind es ss sls = .ok r ∧
      r.off = ((subOffset (srcLayout kind es ss) sl : Nat) : Int) ∧
      r.exts = (subExts sl (es.map Int.toNat)).map Int.ofNat ∧
      (match subLayout (srcLayout kind es ss) sl with
        | .left xs => r.kind = "left" ∧ r.exts = xs.map Int.ofNat ∧
            r.strs = (leftStrides xs).map Int.ofNat
        | .right xs => r.kind = "right" ∧ r.exts = xs.map Int.ofNat ∧
            r.strs = (rightStrides xs).map Int.ofNat
        | _ => r.kind = "stride" ∧
            r.strs = (subStrides sl (srcLayout kind es ss).strides).map Int.ofNat) := by
  obtain ⟨sl, hsl, hm⟩ := C14_sub_mapping_eq T kind es ss sls hk hadm
  refine ⟨sl, _, hsl, hm, rfl, ?_, subResP_layout _ sl⟩
  show toI (subLayout (srcLayout kind es ss) sl).extents = _
  rw [subLayout_extents, srcLayout_extents]; rfl

/-- no undefined behaviour on admissible inputs -/
theorem C14_sub_mapping_ok (T : ITy) (kind : String) (es ss : List Int) (sls : List SliceI)
    (hk : kind = "left" ∨ kind = "right" ∨ kind = "stride")
    (hadm : subAdm T kind es ss sls = true) :
    ∃ r, subMappingM T kind es ss sls = .ok r := by
  obtain ⟨_, r, _, h, _⟩ := C14_sub_mapping T kind es ss sls hk hadm
  exact ⟨r, h⟩

/-! ### examples -/

/-- rank 3, `full` / `pair` / index: the result keeps `layout_left` -/
example : subAdm .i8 "left" [4, 5, 6] [] [.full, .range 1 3, .idx 2] = true ∧
    subMappingM .i8 "left" [4, 5, 6] [] [.full, .range 1 3, .idx 2] =
      .ok { off := 44, exts := [4, 2], kind := "left", strs := [1, 4] } := by decide +kernel

/-- rank 3, `strided_slice` / `pair` / index on `layout_left`: the result falls to `layout_stride` -/
example : subAdm .i8 "left" [4, 5, 6] [] [.strided 1 3 2, .range 1 3, .idx 5] = true ∧
    subMappingM .i8 "left" [4, 5, 6] [] [.strided 1 3 2, .range 1 3, .idx 5] =
      .ok { off := 105, exts := [2, 2], kind := "stride", strs := [2, 4] } := by decide +kernel

/-- rank 3, index / `pair` / `full` on `layout_right`: the result keeps `layout_right` -/
example : subAdm .i8 "right" [4, 5, 6] [] [.idx 3, .range 1 3, .full] = true ∧
    subMappingM .i8 "right" [4, 5, 6] [] [.idx 3, .range 1 3, .full] =
      .ok { off := 96, exts := [2, 6], kind := "right", strs := [6, 1] } := by decide +kernel

/-- a `layout_stride` source with a zero extent and an empty slice at the end of its extent: the
    offset is the `required_span_size()` of the source (0 here) -/
example : subAdm .i16 "stride" [4, 0, 6] [1, 4, 100] [.strided 1 3 2, .full, .range 6 6] = true ∧
    subMappingM .i16 "stride" [4, 0, 6] [1, 4, 100] [.strided 1 3 2, .full, .range 6 6] =
      .ok { off := 0, exts := [2, 0, 0], kind := "stride", strs := [2, 4, 100] } := by decide +kernel

/-- an inadmissible input (span 2³³ in `int`): `subMappingM` reports the signed overflow of
    `layout_left::stride(2)` -/
example : subAdm .i32 "left" [65536, 65536, 2] [] [.full, .full, .full] = false ∧
    subMappingM .i32 "left" [65536, 65536, 2] [] [.full, .full, .full] = .error .overflow := by decide +kernel

/-- a negative slice member is rejected by `subAdm` (through `toSlice`) -/
example : subAdm .i32 "left" [4, 5, 6] [] [.full, .range 1 3, .idx (-2)] = false := by decide +kernel

/-- the conjunct `strideRepB` of `subAdm` cannot be dropped: the mapping is admissible and the
    slices are valid, but 2³² becomes 0 (division by zero in `submdspan_extents`) and 2³² + 2
    becomes 2 (another extent and stride than the pure layer's) -/
example : (Layout.left [10]).admB .i32 = true ∧ slicesValidB [.strided 0 5 4294967296] [10] = true ∧
    strideRepB .i32 [.strided 0 5 4294967296] = false ∧
    subAdm .i32 "left" [10] [] [.strided 0 5 4294967296] = false ∧
    subMappingM .i32 "left" [10] [] [.strided 0 5 4294967296] = .error .divzero := by decide +kernel
example : (Layout.left [10]).admB .i32 = true ∧ slicesValidB [.strided 0 5 4294967298] [10] = true ∧
    subAdm .i32 "left" [10] [] [.strided 0 5 4294967298] = false ∧
    subMappingM .i32 "left" [10] [] [.strided 0 5 4294967298] =
      .ok { off := 0, exts := [3], kind := "stride", strs := [2] } ∧
    subResP (.left [10]) [.strided 0 5 4294967298] =
      { off := 0, exts := [1], kind := "stride", strs := [1] } := by decide +kernel
/-- the largest `int` stride is admissible -/
example : subAdm .i32 "left" [10] [] [.strided 0 5 2147483647] = true ∧
    subMappingM .i32 "left" [10] [] [.strided 0 5 2147483647] =
      .ok { off := 0, exts := [1], kind := "stride", strs := [1] } := by decide +kernel

end Mdspan
