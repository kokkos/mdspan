import MdspanVerif.Model.ElemCv
/-!
# C16 — `default_accessor<T>` converts from `default_accessor<U>` iff `U(*)[]` converts to `T(*)[]`, for every cv combination
-/
namespace Mdspan

/-- the specification: same type up to cv, and no qualifier is dropped -/
def SpecAccCv (d s : ElemCv) : Prop :=
  s.base = d.base ∧ (s.isConst = true → d.isConst = true) ∧ (s.isVolatile = true → d.isVolatile = true)

theorem Bool.not_or_iff_imp (a b : Bool) : (!a || b) = true ↔ (a = true → b = true) := by
  cases a <;> cases b <;> decide +kernel

theorem C16_acc_cv (d s : ElemCv) : accCvConstructible d s = true ↔ SpecAccCv d s := by
  simp only [accCvConstructible, arrPtrConvertible, SpecAccCv, Bool.and_eq_true, decide_eq_true_eq,
    Bool.not_or_iff_imp, and_assoc]

/-- implicit whenever it exists (the constructor is not `explicit`) -/
theorem C16_acc_cv_implicit (d s : ElemCv) : accCvConvertible d s = accCvConstructible d s := rfl

/-- reflexive and transitive: a preorder, as a qualification conversion must be -/
theorem accCv_refl (a : ElemCv) : accCvConstructible a a = true := by
  simp [accCvConstructible, arrPtrConvertible]
theorem accCv_trans (a b c : ElemCv) (h1 : accCvConstructible b a = true) (h2 : accCvConstructible c b = true) :
    accCvConstructible c a = true := by
  rw [C16_acc_cv] at *
  obtain ⟨e1, c1, v1⟩ := h1; obtain ⟨e2, c2, v2⟩ := h2
  exact ⟨e1.trans e2, fun h => c2 (c1 h), fun h => v2 (v1 h)⟩

-- adding `volatile` is accepted, dropping it is not; another base type never converts
example : accCvConstructible ⟨0, true, true⟩ ⟨0, false, false⟩ = true ∧ accCvConstructible ⟨0, false, true⟩ ⟨0, false, false⟩ = true ∧
    accCvConstructible ⟨0, true, false⟩ ⟨0, false, true⟩ = false ∧ accCvConstructible ⟨1, true, true⟩ ⟨0, false, false⟩ = false := by decide +kernel

end Mdspan
