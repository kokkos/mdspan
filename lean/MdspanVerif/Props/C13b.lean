import MdspanVerif.Props.C13
import MdspanVerif.Lemmas.Machine
import MdspanVerif.Model.LayoutI
/-!
# C13 — machine level: `mdspan::size()` and `mdspan::empty()`

`size()` folds the extents in `size_t` and returns the result as `size_type`
(`make_unsigned_t<index_type>`).  Both steps are modular, so the machine value is the
mathematical product reduced modulo 2⁶⁴ and then modulo the width of `size_type` — without
any precondition — and it *is* the product whenever the product is representable in `size_type`.
-/
namespace Mdspan

theorem sizeFoldM_eq (es : List Nat) : sizeFoldM (toI es) = ITy.u64.wrap ((prod es : Nat) : Int) := by
  induction es with
  | nil => simp only [toI_nil, sizeFoldM, prod]; decide
  | cons e es ih =>
    have hw (x : Int) : ITy.u64.wrap x = x % ITy.u64.modulus := ITy.wrap_of_unsigned .u64 x rfl
    simp only [toI_cons, sizeFoldM, prod, ih, hw]
    rw [Int.natCast_mul, ← Int.mul_emod]

/-- **C13 (machine level), size()**: no hypothesis on the extents is needed -/
theorem C13_sizeM_any (T : ITy) (es : List Nat) :
    mdsSizeM T (toI es) = T.toUnsigned.wrap (ITy.u64.wrap ((prod es : Nat) : Int)) := by
  simp only [mdsSizeM, sizeFoldM_eq]

/-- **C13 (machine level), size()** in the form used by the checks (the representability of the
    extents is what the driver guarantees; the proof does not use it) -/
theorem C13_sizeM (T : ITy) (es : List Nat) (_hre : ∀ e ∈ es, (e : Int) ≤ T.hi) :
    mdsSizeM T (toI es) = T.toUnsigned.wrap (ITy.u64.wrap ((prod es : Nat) : Int)) :=
  C13_sizeM_any T es

/-- … and the exact product whenever it is representable in `size_type` -/
theorem C13_sizeM_exact (T : ITy) (es : List Nat) (h : ((prod es : Nat) : Int) ≤ T.toUnsigned.hi) :
    mdsSizeM T (toI es) = ((prod es : Nat) : Int) := by
  rw [C13_sizeM_any, ITy.wrap_nat .u64 (Int.le_trans h T.toUnsigned.hi_le_u64),
    ITy.wrap_nat _ h]

theorem C13_sizeM_mdsSize (T : ITy) (es : List Nat) (h : ((mdsSize es : Nat) : Int) ≤ T.toUnsigned.hi) :
    mdsSizeM T (toI es) = ((mdsSize es : Nat) : Int) := by
  rw [C13_size] at h ⊢; exact C13_sizeM_exact T es h

theorem toI_any_zero (es : List Nat) : (toI es).any (· == 0) = foldOr (es.map (· == 0)) := by
  induction es with
  | nil => rfl
  | cons e es ih => exact (congrArg (_ || ·) ih).trans (congrArg (· || _) (natCast_beq e 0))

/-- **C13 (machine level), empty()** -/
theorem C13_emptyM (es : List Nat) : mdsEmptyM (toI es) = mdsEmpty es := by
  rw [mdsEmptyM, mdsEmpty, toI_any_zero, toI_length]

/-- the wrap is real: 2³² · 2³² in `size_t` is 0; a `signed char` mdspan of 16×16 has size() 0 -/
example : mdsSizeM .u64 (toI [4294967296, 4294967296]) = 0 := by decide +kernel
example : mdsSizeM .i8 (toI [16, 16]) = 0 ∧ mdsSizeM .i8 (toI [15, 17]) = 255 := by decide +kernel

end Mdspan
