import MdspanVerif.Props.C04
import MdspanVerif.Props.C01
/-!
# C04 — the aliasing theorem for mappings
-/
namespace Mdspan

/-- **C04**: element `js` of the view returned by submdspan is the very same element as the
    source element `compose sls js` (= `first_k + j·step_k` on the sliced dimensions), for
    left / right / stride / padded sources, kept or strided result layout, any rank.
    `hsv` and `hj` enter through the lengths only; `hpl` and `hpr` hold for every slice list (C09),
    and `sub_alias` (`C04c.lean`) is the statement without them. -/
theorem C04_alias (L : Layout) (hsl : L.strides.length = L.extents.length) (sls : List Slice) (js : List Nat)
    (hsv : SlicesValid sls L.extents) (hj : InB js (subExts sls L.extents))
    (hpl : ∀ es, L = .left es → preserveLeft sls = presLeftSpec sls)
    (hpr : ∀ es, L = .right es → preserveRight sls = presRightSpec sls) :
    subOffsetOrig L sls + (subLayout L sls).offset js = L.offset (compose sls js) := by
  have hl := slicesValid_length sls L.extents hsv
  have hjl := inB_length _ _ hj
  -- source offsets are dot products with the source strides: `sub_alias_dot` applies …
  rw [subOffsetOrig, offset_eq_dot L _ (by rw [firsts_length, hl]),
    offset_eq_dot L _ (by rw [compose_length, hl]), ← sub_alias_dot sls L.strides js (by rw [hl, hsl])]
  congr 1
  -- … and the result layout computes `dot js (subStrides …)`
  rcases subLayout_cases L sls with ⟨es, rfl, hp, h⟩ | ⟨es, rfl, hp, h⟩ | h <;> rw [h]
  · rw [hpl es rfl] at hp
    exact (leftOff_eq_dot _ js).trans (congrArg (dot js) (presLeft_strides 1 sls es hl hp).symm)
  · rw [hpr es rfl] at hp
    exact (rightOff_eq_dot _ js hjl).trans (congrArg (dot js) (presRight_strides sls es hl hp).symm)
  · rfl

end Mdspan
