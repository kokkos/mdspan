import MdspanVerif.Props.C14k
/-!
# C04 at the machine level — the addresses the driver prints for a result view

`subAliasM T r` (`Model/SubMapM.lean`) is the walk the `alias` / `ch` ops of the driver diff against
the C++: for the first 4096 multi-indices `js` of the result view, row-major, the `size_t` sum of
the view's offset and `mapping(js...)` of the *result* mapping.  (4096 is where the C++ side stops
printing, `harness/subsrv.hpp`.)

`view_alias_root` is the statement for a record that describes a view (`SubRes.Rep`) into the
buffer of an admissible root mapping; `C04_sub_alias_machine` (one `submdspan`) and
`C04_chain_alias_machine` (a chain) are its instances.
-/
namespace Mdspan

/-! ### the enumeration of the indices of a view -/

/-- all multi-indices inside the extents, row-major: `allIdx` in the `Nat` layer -/
def allIdxNat : List Nat → List (List Nat)
  | [] => [[]]
  | e :: es => (List.range e).flatMap (fun i => (allIdxNat es).map (fun t => i :: t))

theorem allIdx_toI (xs : List Nat) : allIdx (toI xs) = (allIdxNat xs).map toI := by
  induction xs with
  | nil => rfl
  | cons e xs ih =>
    simp only [toI_cons, allIdx, allIdxNat, Int.toNat_natCast, ih, List.map_flatMap, List.map_map]
    rfl

theorem allIdxNat_inB : ∀ (xs : List Nat) (js : List Nat), js ∈ allIdxNat xs → InB js xs := by
  intro xs js h
  induction xs generalizing js with
  | nil =>
    simp only [allIdxNat, List.mem_singleton] at h
    subst h; trivial
  | cons e xs ih =>
    simp only [allIdxNat, List.mem_flatMap, List.mem_range, List.mem_map] at h
    obtain ⟨i, hi, t, ht, rfl⟩ := h
    exact ⟨hi, ih t ht⟩

theorem allIdxNat_complete : ∀ (xs : List Nat) (js : List Nat), InB js xs → js ∈ allIdxNat xs := by
  intro xs js h
  induction js, xs, h using InB.induction with
  | nil => exact List.mem_singleton.mpr rfl
  | @cons j _ js _ hj _ ih =>
    simp only [allIdxNat, List.mem_flatMap, List.mem_range, List.mem_map]
    exact ⟨j, hj, js, ih, rfl⟩

theorem allIdxNat_nil_of_zero (xs : List Nat) (h : 0 ∈ xs) : allIdxNat xs = [] :=
  List.eq_nil_iff_forall_not_mem.mpr fun js hjs =>
    Nat.lt_irrefl 0 (inB_pos js xs (allIdxNat_inB xs js hjs) 0 h)

theorem any_le_zero_toI (xs : List Nat) : (toI xs).any (· ≤ 0) = true ↔ 0 ∈ xs := by
  simp only [toI, List.any_map, List.any_eq_true, Function.comp, decide_eq_true_eq]
  exact ⟨fun ⟨x, hx, h⟩ => Nat.le_zero.mp (Int.ofNat_le.mp h) ▸ hx, fun h => ⟨0, h, Int.le_refl _⟩⟩

/-! ### the walk -/

/-- `w` is a view into the buffer of an admissible root mapping `L` whose element `js` is the root
    element `c js`, and whose mapping is admissible whenever `w` is non-empty (an empty view prints
    nothing).  No undefined behaviour: the addresses are below the root's span, hence values of `T`
    and of `size_t`. -/
theorem view_alias_root (T : ITy) {r : SubRes} {w : View} (hr : r.Rep w) (hL3 : w.L.Std3) (L : Layout)
    (hL : L.admB T = true) (c : List Nat → List Nat)
    (h : (∀ x ∈ w.L.extents, 0 < x) → w.L.admB T = true ∧
      ∀ js, InB js w.L.extents → w.addr js = L.offset (c js) ∧ InB (c js) L.extents) :
    subAliasM T r =
      .ok (((allIdxNat w.L.extents).take 4096).map (fun js => ((w.addr js : Nat) : Int))) ∧
    ∀ js, InB js w.L.extents →
      w.addr js = L.offset (c js) ∧ InB (c js) L.extents ∧ L.offset (c js) < L.span := by
  have hroot : ∀ js, InB js w.L.extents →
      w.addr js = L.offset (c js) ∧ InB (c js) L.extents ∧ L.offset (c js) < L.span := by
    intro js hj
    obtain ⟨h1, h2⟩ := (h (inB_pos js _ hj)).2 js hj
    exact ⟨h1, h2, admB_offset_lt T L hL h2⟩
  refine ⟨?_, hroot⟩
  unfold subAliasM
  rw [hr.exts, hr.off]
  by_cases h0 : 0 ∈ w.L.extents
  · rw [if_pos ((any_le_zero_toI _).mpr h0), allIdxNat_nil_of_zero _ h0]; rfl
  · rw [if_neg (mt (any_le_zero_toI _).mp h0), allIdx_toI, ← List.map_take, List.mapM_map]
    have hadm := (h (pos_of_not_mem_zero _ h0)).1
    refine mapM_ok _ (fun js => ((w.addr js : Nat) : Int)) _ (fun js hjs => ?_)
    have hj : InB js w.L.extents := allIdxNat_inB _ js (List.mem_of_mem_take hjs)
    obtain ⟨h1, _, h3⟩ := hroot js hj
    have hb : ((w.addr js : Nat) : Int) ≤ T.hi :=
      natCast_le_of_le (Nat.le_of_lt (h1 ▸ h3)) (admB_span_le T L hL)
    have hoff := C14_adm_offset T w.L js hadm hj
    refine bind_ok (a := ((w.L.offset js : Nat) : Int)) ?_ ?_
    · -- the mapping call of the walk is `offM` of the view's mapping: `r.kind` names its layout, and
      -- the strides of `r` count only for "stride" (where the `match` falls through two literals)
      have hk := hr.kind
      obtain ⟨es, ss, hw | hw | hw⟩ := hL3 <;> rw [hw] at hk hoff ⊢
      · simp only [show r.kind = "left" from hk]; exact hoff
      · simp only [show r.kind = "right" from hk]; exact hoff
      · simp only [show r.kind = "stride" from hk, hr.strs hk, hw, String.reduceEq, imp_self]; exact hoff
    · rw [u64_wrap_id T _ (natCast_le_of_le (Nat.le_add_left _ _) hb), ← Int.natCast_add]
      exact congrArg Except.ok (u64_wrap_id T _ hb)

/-! ### one `submdspan`, and chains -/

/-- **C04 at the machine level**: on admissible inputs the walk over the result view (`subAliasM` on
    the result of `subMappingM`) executes no undefined behaviour and prints
    `subOffset L sl + (subLayout L sl).offset js`; every such number is the source offset of the
    composed index `compose sl js` (`first + j·step` on the sliced dimensions), which lies inside
    the source's extents, hence below the source's span. -/
theorem C04_sub_alias_machine (T : ITy) (kind : String) (es ss : List Int) (sls : List SliceI)
    (hk : kind = "left" ∨ kind = "right" ∨ kind = "stride")
    (hadm : subAdm T kind es ss sls = true) :
    ∃ (sl : List Slice) (r : SubRes),
      sls.mapM toSlice = some sl ∧
      subMappingM T kind es ss sls = .ok r ∧
      subAliasM T r = .ok (((allIdxNat (subExts sl (srcLayout kind es ss).extents)).take 4096).map
        (fun js => ((subOffset (srcLayout kind es ss) sl +
          (subLayout (srcLayout kind es ss) sl).offset js : Nat) : Int))) ∧
      ∀ js, InB js (subExts sl (srcLayout kind es ss).extents) →
        subOffset (srcLayout kind es ss) sl + (subLayout (srcLayout kind es ss) sl).offset js =
          (srcLayout kind es ss).offset (compose sl js) ∧
        InB (compose sl js) (srcLayout kind es ss).extents ∧
        (srcLayout kind es ss).offset (compose sl js) < (srcLayout kind es ss).span := by
  obtain ⟨sl, hsl, hL, hv, hm⟩ := sub_mapping_adm T kind es ss sls hk hadm
  have hL3 := srcLayout_std3 kind es ss
  generalize srcLayout kind es ss = L at *
  have hext := subLayout_extents L sl
  have hal := view_alias_root T (View.toRes_rep ⟨subOffset L sl, subLayout L sl⟩) (subLayout_std3 L sl)
    L hL (compose sl) (fun hne => ?_)
  · rw [hext] at hal
    exact ⟨sl, _, hsl, hm, hal⟩
  · rw [hext] at hne ⊢
    exact ⟨subLayout_admB_nonempty T L sl hL3 hL hv hne, fun js hj =>
      ⟨sub_alias_repaired L (admB_strides_length T L hL) sl js hv hj,
        compose_inB sl L.extents js hv hj⟩⟩

/-- per element: every address the driver prints is the source offset of a composed index inside the
    source's extents -/
theorem C04_sub_alias_machine_mem (T : ITy) (kind : String) (es ss : List Int) (sls : List SliceI)
    (hk : kind = "left" ∨ kind = "right" ∨ kind = "stride")
    (hadm : subAdm T kind es ss sls = true) :
    ∃ (sl : List Slice) (r : SubRes) (l : List Int),
      sls.mapM toSlice = some sl ∧ subMappingM T kind es ss sls = .ok r ∧ subAliasM T r = .ok l ∧
      ∀ a ∈ l, ∃ js, InB js (subExts sl (srcLayout kind es ss).extents) ∧
        a = (((srcLayout kind es ss).offset (compose sl js) : Nat) : Int) ∧
        InB (compose sl js) (srcLayout kind es ss).extents ∧
        (srcLayout kind es ss).offset (compose sl js) < (srcLayout kind es ss).span := by
  obtain ⟨sl, r, hsl, hm, hal, hspec⟩ := C04_sub_alias_machine T kind es ss sls hk hadm
  refine ⟨sl, r, _, hsl, hm, hal, ?_⟩
  intro a ha
  obtain ⟨js, hjs, rfl⟩ := List.mem_map.mp ha
  have hj := allIdxNat_inB _ js (List.mem_of_mem_take hjs)
  obtain ⟨h1, h2, h3⟩ := hspec js hj
  exact ⟨js, hj, by rw [h1], h2, h3⟩

/-- … and when the result has at most 4096 elements, every element of the result is printed -/
theorem C04_sub_alias_machine_complete (T : ITy) (kind : String) (es ss : List Int) (sls : List SliceI)
    (hk : kind = "left" ∨ kind = "right" ∨ kind = "stride")
    (hadm : subAdm T kind es ss sls = true) :
    ∃ (sl : List Slice) (r : SubRes) (l : List Int),
      sls.mapM toSlice = some sl ∧ subMappingM T kind es ss sls = .ok r ∧ subAliasM T r = .ok l ∧
      ((allIdxNat (subExts sl (srcLayout kind es ss).extents)).length ≤ 4096 →
        ∀ js, InB js (subExts sl (srcLayout kind es ss).extents) →
          (((srcLayout kind es ss).offset (compose sl js) : Nat) : Int) ∈ l) := by
  obtain ⟨sl, r, hsl, hm, hal, hspec⟩ := C04_sub_alias_machine T kind es ss sls hk hadm
  refine ⟨sl, r, _, hsl, hm, hal, ?_⟩
  intro hlen js hj
  rw [List.take_of_length_le hlen]
  refine List.mem_map.mpr ⟨js, allIdxNat_complete _ js hj, ?_⟩
  rw [(hspec js hj).1]

/-- **C04 at the machine level, chains**: on admissible inputs (`subChainAdm`) the walk over the
    innermost view of a chain of `submdspan`s below a root at offset 0 (the `ch` op of the driver)
    executes no undefined behaviour and prints its addresses `View.addr`; every such address is the
    root offset of the index composed through all levels, inside the root's extents and below the
    root's span. -/
theorem C04_chain_alias_machine (T : ITy) (kind : String) (es ss : List Int)
    (slcs : List (List SliceI)) (hk : kind = "left" ∨ kind = "right" ∨ kind = "stride")
    (hadm : subChainAdm T kind es ss slcs = true) :
    ∃ (chain : List (List Slice)) (r : SubRes),
      slcs.mapM (fun sls => sls.mapM toSlice) = some chain ∧
      subChainM T { off := 0, exts := es, kind := kind, strs := ss } slcs = .ok r ∧
      subAliasM T r = .ok (((allIdxNat (View.subsR ⟨0, srcLayout kind es ss⟩ chain).L.extents).take 4096).map
        (fun js => (((View.subsR ⟨0, srcLayout kind es ss⟩ chain).addr js : Nat) : Int))) ∧
      ∀ js, InB js (View.subsR ⟨0, srcLayout kind es ss⟩ chain).L.extents →
        (View.subsR ⟨0, srcLayout kind es ss⟩ chain).addr js =
          (srcLayout kind es ss).offset (composeAll chain js) ∧
        InB (composeAll chain js) (srcLayout kind es ss).extents ∧
        (srcLayout kind es ss).offset (composeAll chain js) < (srcLayout kind es ss).span := by
  obtain ⟨chain, r, hm, hrun, hrep, _, hL, hok⟩ := sub_chain_rep T kind es ss slcs 0 hk hadm
  have hL3 := srcLayout_std3 kind es ss
  generalize srcLayout kind es ss = L at *
  refine ⟨chain, r, hm, hrun, view_alias_root T hrep (subsR_std3 chain _ hL3) L hL (composeAll chain)
    (fun hne => ?_)⟩
  obtain ⟨_, hcv, hcn⟩ := chain_valid_ne_of_nonempty chain ⟨0, L⟩ hok hne
  rw [View.subsR_eq_subs chain _ hcv hcn]
  refine ⟨subs_admB T chain ⟨0, L⟩ hL3 hL hcv hcn, fun js hj => ?_⟩
  obtain ⟨h1, h2⟩ := View.subs_addr chain ⟨0, L⟩ (admB_strides_length T L hL) hcv js hj
  exact ⟨h1.trans (Nat.zero_add _), h2⟩

/-! ### examples -/

/-- rank 3, `full` / `pair` / index on `layout_left` (4,5,6): the kept-layout result; what the driver
    prints is the list of the source offsets of the composed indices -/
example : subAdm .i8 "left" [4, 5, 6] [] [.full, .range 1 3, .idx 2] = true ∧
    (subMappingM .i8 "left" [4, 5, 6] [] [.full, .range 1 3, .idx 2] >>= subAliasM .i8) =
      .ok [44, 48, 45, 49, 46, 50, 47, 51] ∧
    (allIdxNat (subExts [.full, .range 1 3, .idx 2] [4, 5, 6])).map
      (fun js => (Layout.left [4, 5, 6]).offset (compose [.full, .range 1 3, .idx 2] js)) =
      [44, 48, 45, 49, 46, 50, 47, 51] ∧
    (Layout.left [4, 5, 6]).span = 120 := by decide +kernel

/-- rank 3, `strided_slice` / `pair` / index: the strided result -/
example : subAdm .i8 "left" [4, 5, 6] [] [.strided 1 3 2, .range 1 3, .idx 5] = true ∧
    (subMappingM .i8 "left" [4, 5, 6] [] [.strided 1 3 2, .range 1 3, .idx 5] >>= subAliasM .i8) =
      .ok [105, 109, 107, 111] ∧
    (allIdxNat (subExts [.strided 1 3 2, .range 1 3, .idx 5] [4, 5, 6])).map
      (fun js => (Layout.left [4, 5, 6]).offset (compose [.strided 1 3 2, .range 1 3, .idx 5] js)) =
      [105, 109, 107, 111] := by decide +kernel

/-- a chain of depth 2 (rows [1,4) of `layout_right` (4,6), then row 2 of those, columns 1 and 3) -/
example : subChainAdm .i8 "right" [4, 6] [] [[.range 1 4, .full], [.idx 2, .strided 1 4 2]] = true ∧
    (subChainM .i8 { off := 0, exts := [4, 6], kind := "right", strs := [] }
      [[.range 1 4, .full], [.idx 2, .strided 1 4 2]] >>= subAliasM .i8) = .ok [19, 21] ∧
    (allIdxNat [2]).map (fun js => (Layout.right [4, 6]).offset
      (composeAll [[.range 1 4, .full], [.idx 2, .strided 1 4 2]] js)) = [19, 21] := by decide +kernel

/-- an empty result prints nothing — also for the degenerate `layout_left` (0,5), whose strided
    sub-view has an inadmissible (zero-stride) mapping: no non-emptiness hypothesis is needed -/
example : subAdm .i8 "left" [0, 5] [] [.strided 0 0 1, .full] = true ∧
    (subMappingM .i8 "left" [0, 5] [] [.strided 0 0 1, .full] >>= subAliasM .i8) = .ok [] := by decide +kernel

/-- the enumeration is row-major -/
example : allIdxNat [2, 3] = [[0, 0], [0, 1], [0, 2], [1, 0], [1, 1], [1, 2]] := by decide +kernel

end Mdspan
