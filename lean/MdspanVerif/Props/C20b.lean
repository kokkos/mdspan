import MdspanVerif.Props.C20
import MdspanVerif.Props.C14b
/-!
# C20 — machine level: the debug-only stride walk of `layout_left/right(layout_stride const&)`

`index_type stride = 1; for r: if (common_t(stride) != common_t(other.stride(r))) abort(); stride *= extent(r);`

The running product is multiplied by `extent(r)` after *every* comparison, also after the last
one, so the walk evaluates `Π extent(r)` completely when no comparison fails: the hypothesis under
which it is free of UB is the admissibility of the *target* mapping (`prod1 es ≤ max(index_type)`),
not merely the representability of the values that are compared.
-/
namespace Mdspan

theorem walkGoM_cons (T U : ITy) (p e s : Int) (es ss : List Int) :
    walkGoM T U p (e :: es) (s :: ss) =
      if !(V.eq ⟨T, p⟩ ⟨U, s⟩) then pure true else mulAssignM T p e >>= (walkGoM T U · es ss) := by
  simp only [walkGoM, mulAssignM, bind_assoc, pure_bind]

theorem walkGoM_refines (T U : ITy) (p : Nat) (es ss : List Nat) (hl : es.length = ss.length)
    (hrs : ∀ s ∈ ss, (s : Int) ≤ U.hi) (hadm : ((one0 p * prod1 es : Nat) : Int) ≤ T.hi) :
    walkGoM T U p (toI es) (toI ss) = .ok (walkLeftFrom p es ss) := by
  induction es, ss, hl using List.induction₂ generalizing p with
  | nil => rfl
  | cons e es s ss hl ih =>
    obtain ⟨hs, hrs⟩ := List.forall_mem_cons.mp hrs
    have ⟨hm, hnext⟩ := mulAssignM_prod1 T hadm
    rw [toI_cons, toI_cons, walkGoM_cons, walkLeftFrom, V.eq_nat (natCast_le_of_le (le_one0_mul_prod1 p _) hadm) hs]
    by_cases hps : p = s
    · rw [if_neg (by simp [hps]), if_neg (by simp [hps]), hm]
      exact ih (p * e) hrs hnext
    · rw [if_pos (by simp [hps]), if_pos hps]; rfl

/-- **C20 (machine level), layout_left**: for every pair of index types the debug walk executes
    no UB and aborts exactly when the pure walk does (`C20_left`: iff the strides are not the
    canonical column-major ones), provided the target extents are admissible. -/
theorem C20_walkLeftM_refines (T U : ITy) (es ss : List Nat) (hl : es.length = ss.length)
    (hre : ∀ e ∈ es, (e : Int) ≤ T.hi) (hrs : ∀ s ∈ ss, (s : Int) ≤ U.hi)
    (hadm : ((prod1 es : Nat) : Int) ≤ T.hi) :
    walkLeftM T U (toI es) (toI ss) = .ok (walkLeft es ss) :=
  walkGoM_refines T U 1 es ss hl hrs ((Nat.one_mul _).symm ▸ hadm)

/-- **C20 (machine level), layout_right** -/
theorem C20_walkRightM_refines (T U : ITy) (es ss : List Nat) (hl : es.length = ss.length)
    (hre : ∀ e ∈ es, (e : Int) ≤ T.hi) (hrs : ∀ s ∈ ss, (s : Int) ≤ U.hi)
    (hadm : ((prod1 es : Nat) : Int) ≤ T.hi) :
    walkRightM T U (toI es) (toI ss) = .ok (walkRight es ss) := by
  unfold walkRightM walkRight
  rw [toI_reverse, toI_reverse]
  exact walkGoM_refines T U 1 es.reverse ss.reverse (by rw [List.length_reverse, List.length_reverse, hl])
    (fun s hs => hrs s (List.mem_reverse.mp hs)) (by rw [prod1_reverse]; exact (Nat.one_mul _).symm ▸ hadm)

/-- with the pure characterisation: abort iff the strides are not canonical -/
theorem C20_walkLeftM_iff (T U : ITy) (es ss : List Nat) (hl : es.length = ss.length)
    (hre : ∀ e ∈ es, (e : Int) ≤ T.hi) (hrs : ∀ s ∈ ss, (s : Int) ≤ U.hi)
    (hadm : ((prod1 es : Nat) : Int) ≤ T.hi) :
    ∃ b, walkLeftM T U (toI es) (toI ss) = .ok b ∧ (b = true ↔ ss ≠ leftStrides es) :=
  ⟨_, C20_walkLeftM_refines T U es ss hl hre hrs hadm, C20_left es ss hl⟩

theorem C20_walkRightM_iff (T U : ITy) (es ss : List Nat) (hl : es.length = ss.length)
    (hre : ∀ e ∈ es, (e : Int) ≤ T.hi) (hrs : ∀ s ∈ ss, (s : Int) ≤ U.hi)
    (hadm : ((prod1 es : Nat) : Int) ≤ T.hi) :
    ∃ b, walkRightM T U (toI es) (toI ss) = .ok b ∧ (b = true ↔ ss ≠ rightStrides es) :=
  ⟨_, C20_walkRightM_refines T U es ss hl hre hrs hadm, C20_right es ss hl⟩

/-- in terms of the driver's predicate: `adm = 1` for the *target* mapping (and source strides
    that are values of the source index type) makes the debug walk UB-free and exact -/
theorem C20_walkLeftM_adm (T U : ITy) (es ss : List Nat) (hl : es.length = ss.length)
    (h : (Layout.left es).admB T = true) (hrs : ∀ s ∈ ss, (s : Int) ≤ U.hi) :
    walkLeftM T U (toI es) (toI ss) = .ok (walkLeft es ss) := by
  obtain ⟨_, hsp, hre, _⟩ := admB_elim T _ h
  rw [span1_left] at hsp
  exact C20_walkLeftM_refines T U es ss hl hre hrs hsp

theorem C20_walkRightM_adm (T U : ITy) (es ss : List Nat) (hl : es.length = ss.length)
    (h : (Layout.right es).admB T = true) (hrs : ∀ s ∈ ss, (s : Int) ≤ U.hi) :
    walkRightM T U (toI es) (toI ss) = .ok (walkRight es ss) := by
  obtain ⟨_, hsp, hre, _⟩ := admB_elim T _ h
  rw [span1_right] at hsp
  exact C20_walkRightM_refines T U es ss hl hre hrs hsp

/-! ### the hypothesis is about the complete product

All compared values (1 and 65536) are representable and every comparison succeeds, but the
multiplication after the last comparison evaluates 65536·65536 in `int`: signed overflow.  Such
extents are not admissible for a `layout_left::mapping<extents<int,…>>` in the first place.  For index
types narrower than `int` the product is computed in `int` and wraps on assignment (no UB). -/
example : walkLeftM .i32 .i32 (toI [65536, 65536]) (toI [1, 65536]) = .error .overflow := by decide +kernel
example : walkRightM .i32 .i32 (toI [65536, 65536]) (toI [65536, 1]) = .error .overflow := by decide +kernel
example : walkLeftM .i16 .i16 (toI [256, 256]) (toI [1, 256]) = .ok false := by decide +kernel
/-- boundary: `prod1 es = max` exactly -/
example : ((prod1 [127, 1] : Nat) : Int) ≤ ITy.i8.hi ∧
    walkLeftM .i8 .u64 (toI [127, 1]) (toI [1, 127]) = .ok false := by decide +kernel

end Mdspan
