import MdspanVerif.Model.ConvertG
import MdspanVerif.Props.C08
/-!
# C08 for destination types with a compile-time padded stride

Under `ConvPreG` (the precondition of `convert` plus "the compile-time padded stride equals the
source's `stride(padded_stride_idx)`") `convertG` is `convert`, so C08 carries over.  `convertS`
(`layout_left → left_padded`, `layout_right → right_padded`) is the case the Mandates of P2642
speak of.
-/
namespace Mdspan

theorem initPad_congr {n s t : Nat} (h : n > 1 → s = t) : initPad n s = initPad n t := by
  unfold initPad; split
  · next hn => exact h hn
  · rfl

theorem convert_lpad (src d : Layout) (h : convert src .lpad = some d) :
    d = .lpad src.extents (initPad src.rank (src.strideAt lpadIdx)) := by
  cases src with
  | rpad es ps =>
    obtain ⟨hle, rfl⟩ := ite_some_eq.mp h
    -- rank ≤ 1: both forms of `init_padding` (`initPad2`, `initPad`) yield 0
    exact congrArg (Layout.lpad es) ((if_neg (Nat.not_lt.mpr hle)).trans (if_neg (Nat.not_lt.mpr hle)).symm)
  | _ => cases h <;> rfl

theorem convert_rpad (src d : Layout) (h : convert src .rpad = some d) :
    d = .rpad src.extents (initPad src.rank (src.strideAt (rpadIdx src.rank))) := by
  cases src with
  | lpad es ps =>
    obtain ⟨hle, rfl⟩ := ite_some_eq.mp h
    -- rank ≤ 1, as in `convert_lpad`
    exact congrArg (Layout.rpad es) ((if_neg (Nat.not_lt.mpr hle)).trans (if_neg (Nat.not_lt.mpr hle)).symm)
  | _ => cases h <;> rfl

theorem convertG_eq (src : Layout) (dst : LKind) (sps : Option Nat) (d : Layout)
    (h : convertG src dst sps = some d) (hp : ConvPreG src dst sps) : convert src dst = some d := by
  unfold convertG at h
  split at h
  · next v es ps hc =>
    obtain rfl := (convert_spec src dst _ hc).2.1
    cases convert_lpad src _ hc
    -- the `if` of `convertG` in `h` is `initPad _ v`
    have hv : initPad src.rank (src.strideAt lpadIdx) = initPad src.rank v := initPad_congr hp.2
    rw [hc, hv]
    exact h
  · next v es ps hc =>
    obtain rfl := (convert_spec src dst _ hc).2.1
    cases convert_rpad src _ hc
    have hv : initPad src.rank (src.strideAt (rpadIdx src.rank)) = initPad src.rank v := initPad_congr hp.2
    rw [hc, hv]
    exact h
  · exact h

/-- **C08 (conversion into a type with a static padded stride).** Extents are copied. -/
theorem C08_convG_extents (src : Layout) (dst : LKind) (sps : Option Nat) (d : Layout)
    (h : convertG src dst sps = some d) (hp : ConvPreG src dst sps) : d.extents = src.extents :=
  C08_conv_extents src dst d (convertG_eq src dst sps d h hp)

/-- **C08 (conversion into a type with a static padded stride).** Every multi-index of the right
    length keeps its offset. -/
theorem C08_convG_offset (src : Layout) (dst : LKind) (sps : Option Nat) (d : Layout)
    (h : convertG src dst sps = some d) (hp : ConvPreG src dst sps) (hwf : src.WF) (is : List Nat)
    (hl : is.length = src.extents.length) : d.offset is = src.offset is :=
  C08_conv_offset src dst d (convertG_eq src dst sps d h hp) hp.1 hwf is hl

-- the precondition is needed: `layout_stride{(2,3),(1,2)} → left_padded<4>::mapping<extents<int,2,3>>`
-- (static padded stride 4) compiles and changes the mapping
example : convertG (.stride [2, 3] [1, 2]) .lpad (some 4) = some (.lpad [2, 3] 4) ∧
    ¬ ConvPreG (.stride [2, 3] [1, 2]) .lpad (some 4) ∧
    (Layout.lpad [2, 3] 4).offset [0, 1] = 4 ∧ (Layout.stride [2, 3] [1, 2]).offset [0, 1] = 2 := by
  decide +kernel
-- non-vacuity: rank-3 sources of three kinds into a static padded stride 8
example : ConvPreG (.stride [5, 2, 3] [1, 8, 16]) .lpad (some 8) ∧
    convertG (.stride [5, 2, 3] [1, 8, 16]) .lpad (some 8) = some (.lpad [5, 2, 3] 8) ∧
    ConvPreG (.lpad [5, 2, 3] 8) .lpad (some 8) ∧ ConvPreG (.right [2, 3, 8]) .rpad (some 8) ∧
    convertG (.right [2, 3, 8]) .rpad (some 8) = some (.rpad [2, 3, 8] 8) := by decide +kernel

/-! ## `convertS`: the Mandates of P2642 and the `static_assert` as written -/

/-- what the Mandates + Preconditions of P2642 amount to for the value: for rank > 1 a static
    padded stride equals the extent it pads (= the source's `stride(padded_stride_idx)`) -/
def StaticOK (src : Layout) (dst : LKind) (sps : Option Nat) : Prop :=
  match dst, src with
  | .lpad, .left es => es.length > 1 → ∀ v, sps = some v → v = es.getD 0 0
  | .rpad, .right es => es.length > 1 → ∀ v, sps = some v → v = es.getD (es.length - 1) 0
  | _, _ => True

theorem convertS_spec (src : Layout) (dst : LKind) (sps : Option Nat) (d : Layout)
    (h : convertS src dst sps = some d) (hok : StaticOK src dst sps) :
    convertG src dst sps = some d ∧ ConvPreG src dst sps ∧ src.WF := by
  unfold convertS at h
  split at h <;> cases h <;> cases sps
  · exact ⟨rfl, ⟨trivial, trivial⟩, trivial⟩
  · next es v => exact ⟨rfl, ⟨trivial, fun hr => (leftStride_idx es hr).trans (hok hr v rfl).symm⟩, trivial⟩
  · exact ⟨rfl, ⟨trivial, trivial⟩, trivial⟩
  · next es v => exact ⟨rfl, ⟨trivial, fun hr => (rightStride_idx es hr).trans (hok hr v rfl).symm⟩, trivial⟩

/-- with a static padded stride the conversion preserves the mapping when the constant is the
    padded extent -/
theorem C08_convS_offset (src : Layout) (dst : LKind) (sps : Option Nat) (d : Layout)
    (h : convertS src dst sps = some d) (hok : StaticOK src dst sps) (is : List Nat)
    (hl : is.length = src.extents.length) : d.offset is = src.offset is :=
  have ⟨hg, hp, hwf⟩ := convertS_spec src dst sps d h hok
  C08_convG_offset src dst sps d hg hp hwf is hl

/-- for `OtherExtents::rank() > 1` the `static_assert` as written accepts every combination -/
theorem ctorStaticAssert_vacuous (n : Nat) (sps ose : Option Nat) (h : n > 1) :
    ctorStaticAssert n sps ose = true := by simp [ctorStaticAssert, h]

-- witness (not covered by `StaticOK`):
-- `layout_left_padded<4>::mapping<extents<int,5,3>>(layout_left::mapping<extents<int,5,3>>{})`
-- compiles (the `static_assert` as written passes although the Mandates of P2642 fail) and maps
-- `(0,1)` to 8 where the source maps it to 5
example : ctorStaticAssert 2 (some 8) (some 5) = true ∧ ctorMandate 2 (some 8) (some 5) = false := by
  decide +kernel
example : convertS (.left [5, 3]) .lpad (some 8) = some (.lpad [5, 3] 8) := by decide +kernel
example : (Layout.lpad [5, 3] 8).offset [0, 1] = 8 ∧ (Layout.left [5, 3]).offset [0, 1] = 5 := by decide +kernel

end Mdspan
