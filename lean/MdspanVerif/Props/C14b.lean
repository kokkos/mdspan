import MdspanVerif.Lemmas.Machine
import MdspanVerif.Lemmas.Prod1
/-!
# C14 — running products (`required_span_size` of layout_left/right) and `find_next_multiple` (as repaired: defect F3, DESIGN.md §6)
-/
namespace Mdspan

theorem mulAssignM_prod1 (T : ITy) {acc e : Nat} {es : List Nat}
    (hadm : ((one0 acc * prod1 (e :: es) : Nat) : Int) ≤ T.hi) :
    mulAssignM T acc e = .ok ((acc * e : Nat) : Int) ∧
      ((one0 (acc * e) * prod1 es : Nat) : Int) ≤ T.hi :=
  have hnext : ((one0 (acc * e) * prod1 es : Nat) : Int) ≤ T.hi := natCast_le_of_le (prod1_step acc e es) hadm
  have hacc : (acc : Int) ≤ T.hi := natCast_le_of_le (le_one0_mul_prod1 acc _) hadm
  have he : (e : Int) ≤ T.hi :=
    natCast_le_of_le (Nat.le_trans (le_one0_mul_prod1 e es) (Nat.le_mul_of_pos_left _ (one0_pos acc))) hadm
  have hmul : ((acc * e : Nat) : Int) ≤ T.hi := natCast_le_of_le (le_one0_mul_prod1 (acc * e) es) hnext
  ⟨mulAssignM_ok T hacc he hmul, hnext⟩

theorem prodGoM_cons (T : ITy) (acc e : Int) (es : List Int) :
    prodGoM T acc (e :: es) = mulAssignM T acc e >>= (prodGoM T · es) := by
  simp only [prodGoM, mulAssignM, bind_assoc, pure_bind]

theorem prodGoM_append (T : ITy) (acc : Int) (a b : List Int) :
    prodGoM T acc (a ++ b) = prodGoM T acc a >>= (prodGoM T · b) := by
  induction a generalizing acc with
  | nil => rfl
  | cons e a ih => simp only [List.cons_append, prodGoM, ih, bind_assoc]

theorem prodGoM_prod1 (T : ITy) (acc : Nat) (es : List Nat) (hadm : ((one0 acc * prod1 es : Nat) : Int) ≤ T.hi) :
    prodGoM T acc (toI es) = .ok ((acc * prod es : Nat) : Int) := by
  induction es generalizing acc with
  | nil => rw [prod, Nat.mul_one]; rfl
  | cons e es ih =>
    have ⟨hm, hnext⟩ := mulAssignM_prod1 T hadm
    rw [toI_cons, prodGoM_cons, hm, prod, ← Nat.mul_assoc]
    exact ih (acc * e) hnext

/-- `prodGoM_prod1` with `one0 acc` written out and a hypothesis on the extents that the bound implies -/
theorem prodGoM_refines (T : ITy) : ∀ (acc : Nat) (es : List Nat),
    (∀ e ∈ es, (e : Int) ≤ T.hi) → (((if acc = 0 then 1 else acc) * prod1 es : Nat) : Int) ≤ T.hi →
    prodGoM T acc (toI es) = .ok ((acc * prod es : Nat) : Int) :=
  fun acc es _ hadm => prodGoM_prod1 T acc es hadm

theorem prodGoM_one (T : ITy) (es : List Nat) (hadm : ((prod1 es : Nat) : Int) ≤ T.hi) :
    prodGoM T 1 (toI es) = .ok ((prod es : Nat) : Int) :=
  Nat.one_mul (prod es) ▸ prodGoM_prod1 T 1 es ((Nat.one_mul (prod1 es)).symm ▸ hadm)

/-- **C14, required_span_size of layout_left/right**: the running product never leaves the
    index type when the span with zero extents counted as one is representable. -/
theorem C14_span_lr (T : ITy) (es : List Nat) (hrep : ∀ e ∈ es, (e : Int) ≤ T.hi)
    (hadm : ((prod1 es : Nat) : Int) ≤ T.hi) :
    spanLRM T (toI es) = .ok ((spanLR es : Nat) : Int) := prodGoM_one T es hadm

theorem findNextMultipleM_refines (T : ITy) (a o : Nat) (ha : (a : Int) ≤ T.hi) (ho : (o : Int) ≤ T.hi)
    (hres : ((findNextMultiple a o : Nat) : Int) ≤ T.hi) :
    findNextMultipleM T a o = .ok ((findNextMultiple a o : Nat) : Int) := by
  rcases Nat.eq_zero_or_pos a with rfl | hapos
  · rfl
  · have haI : ¬ (a : Int) = 0 := Int.natCast_ne_zero.mpr (Nat.ne_of_gt hapos)
    rw [findNextMultiple, if_neg (Nat.ne_of_gt hapos)] at hres ⊢
    -- `q + c` is not above `(q + c) * a`, the result
    have hsum := natCast_le_of_le (Nat.le_mul_of_pos_right _ hapos) hres
    have hc : ∀ m : Nat, (if (m : Int) ≠ 0 then (1 : Int) else 0) = ((if m ≠ 0 then 1 else 0 : Nat) : Int) := by
      intro m; by_cases h : m = 0 <;> simp [h]
    rw [findNextMultipleM, if_neg haI, V.div_ok T T.common_self hapos ho ha, ok_bind,
      V.mod_ok T T.common_self hapos ho ha, ok_bind]
    show (V.add _ ⟨T, if ((o % a : Nat) : Int) ≠ 0 then (1 : Int) else 0⟩ >>= _) = _
    rw [hc, V.add_ok T T.common_promote_left hsum, ok_bind, V.mul_ok T T.common_promote_left hsum ha hres, ok_bind,
      narrow_id T hres]
    rfl

example : findNextMultiple 2147483649 2147483649 = 2147483649 := by decide +kernel
example : findNextMultipleM .u32 2147483649 2147483649 = .ok 2147483649 := by decide +kernel
/-- F3: the expression of the repository, `(offset + alignment - 1) / alignment * alignment`, wraps to 0 on these
    inputs in `unsigned`, and is a signed overflow in `int` from 2³⁰ + 1 on -/
example : findNextMultipleOrigM .u32 2147483649 2147483649 = .ok 0 := by decide +kernel
example : findNextMultipleOrigM .i32 1073741825 1073741825 = .error .overflow := by decide +kernel

end Mdspan
