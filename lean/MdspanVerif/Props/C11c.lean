import MdspanVerif.Props.C11
/-!
# C11 — histories never invent or alter a view

Together with `C11_run` (the stored pairs are read back as the triples) `C11_history_origin` is
"every multi-index designates the same element as in the source" for arbitrary histories: no operation
changes a handle, a mapping or an accessor, and none creates a combination that was never supplied.
-/
namespace Mdspan

section
variable {H M A : Type}

/-- the views supplied to constructors during a history -/
def consOf : List (POp H M A) → List (MdsView H M A)
  | [] => []
  | .cons _ v :: ops => v :: consOf ops
  | _ :: ops => consOf ops

def PoolFrom (p : Pool H M A) (srcs : List (MdsView H M A)) : Prop :=
  ∀ i v, Pool.at p i = some v → v ∈ srcs

theorem poolFrom_put (p : Pool H M A) (srcs : List (MdsView H M A)) (hp : PoolFrom p srcs) (i : Nat)
    (x : Option (MdsView H M A)) (hx : ∀ v, x = some v → v ∈ srcs) : PoolFrom (Pool.put p i x) srcs := by
  intro k v hv
  rw [Pool.at_put] at hv
  split at hv
  · exact hx v hv
  · exact hp k v hv

theorem consOf_cons (op : POp H M A) (ops : List (POp H M A)) : consOf (op :: ops) = consOf [op] ++ consOf ops := by
  cases op <;> rfl

theorem poolFrom_step (p : Pool H M A) (srcs : List (MdsView H M A)) (hp : PoolFrom p srcs) (op : POp H M A)
    (hc : ∀ v ∈ consOf [op], v ∈ srcs) : PoolFrom (Pool.step p op) srcs := by
  cases op with
  | cons i v => exact poolFrom_put p _ hp i _ fun w hw => Option.some.inj hw ▸ hc v List.mem_cons_self
  | copy i j | move i j | assign i j | moveAssign i j => exact poolFrom_put p _ hp i _ (hp j)
  | swap i j => exact poolFrom_put _ _ (poolFrom_put p _ hp i _ (hp j)) j _ (hp i)

theorem poolFrom_run (ops : List (POp H M A)) (p : Pool H M A) (srcs : List (MdsView H M A))
    (hp : PoolFrom p srcs) (hc : ∀ v ∈ consOf ops, v ∈ srcs) : PoolFrom (Pool.run p ops) srcs := by
  induction ops generalizing p with
  | nil => exact hp
  | cons op ops ih =>
    rw [consOf_cons] at hc
    exact ih _ (poolFrom_step p srcs hp op fun v hv => hc v (List.mem_append_left _ hv))
      fun v hv => hc v (List.mem_append_right _ hv)

/-- **C11 (histories)**: after any sequence of operations every view in the pool is one that was
    supplied to a constructor during the sequence, or one the pool held before. -/
theorem C11_history_origin (ops : List (POp H M A)) (p : Pool H M A) (srcs : List (MdsView H M A))
    (hp : PoolFrom p srcs) : PoolFrom (Pool.run p ops) (consOf ops ++ srcs) :=
  poolFrom_run ops p _ (fun i v h => List.mem_append_right _ (hp i v h)) fun _ hv => List.mem_append_left _ hv

/-- starting from an empty pool: every view is one that was constructed -/
theorem C11_history_from_empty (ops : List (POp H M A)) (n : Nat) (i : Nat) (v : MdsView H M A)
    (h : Pool.at (Pool.run (List.replicate n none) ops) i = some v) : v ∈ consOf ops := by
  refine poolFrom_run ops _ _ (fun k w hw => ?_) (fun _ hv => hv) i v h
  unfold Pool.at at hw
  rw [List.getElem?_replicate] at hw
  split at hw <;> cases hw
end

/-- non-vacuity: a history with two constructions, an assignment and a swap -/
example : Pool.at (Pool.run [none, none, none]
    [.cons 0 (⟨10, 1, 7⟩ : MdsView Nat Nat Nat), .cons 1 ⟨20, 2, 8⟩, .assign 2 0, .swap 2 1]) 1 = some ⟨10, 1, 7⟩ := by
  decide +kernel

end Mdspan
