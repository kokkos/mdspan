import MdspanVerif.Model.Extents
/-!
# C06 — extents report exactly the static and run-time extents they were built from
-/
namespace Mdspan

/-- a dynamic position always finds its slot inside the value array -/
theorem dynSlot_lt : ∀ (p : Pattern) (r : Nat), p[r]? = some none → dynSlot p r < rankDyn p := by
  intro p
  induction p with
  | nil => exact nofun
  | cons o p ih =>
    intro r h
    rcases r with _ | r
    · cases Option.some.inj h
      exact Nat.succ_pos _
    · cases o with
      | none => exact Nat.succ_lt_succ (ih r h)
      | some _ => exact ih r h

theorem Ext.extent_dyn {p : Pattern} {r : Nat} (h : p[r]? = some none) (dyn : List Int) :
    (Ext.mk p dyn).extent r = dyn.getD (dynSlot p r) 0 := by
  simp only [Ext.extent, h]

/-- the dynamic-only constructor: the `k`-th dynamic position reports the `k`-th value,
    static positions report the static value -/
theorem C06_fromDyn (p : Pattern) (vals : List Int) (r : Nat) :
    (Ext.fromDyn p vals).extent r =
      match p[r]? with
      | some (some s) => (s : Int)
      | some none => vals.getD (dynSlot p r) 0
      | none => 0 := by
  rfl

theorem fillGo_frame (p : Pattern) (vals : List Int) (k : Nat) (dyn : List Int) (j : Nat) (hj : j < k) :
    (fillGo p vals k dyn)[j]? = dyn[j]? := by
  fun_induction fillGo p vals k dyn with
  | case1 p v vs k dyn ih =>   -- dynamic position: `dyn[k] := v`
    exact (ih (Nat.lt_succ_of_lt hj)).trans (List.getElem?_set_ne (Nat.ne_of_gt hj))
  | case2 _ p _ vs k dyn ih => exact ih hj
  | case3 => rfl

/-- invariant of the fill loop, `k` the scan value -/
theorem fillGo_get (p : Pattern) (vals : List Int) (r : Nat) (h : p[r]? = some none) (hr : r < vals.length)
    (k : Nat) (dyn : List Int) (hk : k + dynSlot p r < dyn.length) :
    (fillGo p vals k dyn)[k + dynSlot p r]? = vals[r]? := by
  induction p generalizing vals r k dyn with
  | nil => cases h
  | cons o p ih =>
    rcases vals with _ | ⟨v, vs⟩
    · cases hr
    rcases r with _ | r
    · cases Option.some.inj h   -- `dyn[k] := v`, and the rest of the loop leaves slot `k` alone
      exact (fillGo_frame p vs (k + 1) _ k (Nat.lt_succ_self k)).trans (List.getElem?_set_self hk)
    · cases o with
      | none =>   -- `dynSlot (none :: p) (r + 1)` is `dynSlot p r + 1`
        have ih' : (fillGo p vs (k + 1) (dyn.set k v))[k + 1 + dynSlot p r]? = vs[r]? :=
          ih vs r h (Nat.lt_of_succ_lt_succ hr) (k + 1) (dyn.set k v)
            (by rw [List.length_set, Nat.add_right_comm]; exact hk)
        rwa [Nat.add_right_comm] at ih'
      | some _ => exact ih vs r h (Nat.lt_of_succ_lt_succ hr) k dyn hk

/-- **C06, all-values constructors**: a dynamic position reports the value supplied for it,
    a static position its static value -/
theorem C06_fromAll (p : Pattern) (vals : List Int) (hl : vals.length = p.length) (r : Nat) :
    (Ext.fromAll p vals).extent r =
      match p[r]? with
      | some (some s) => (s : Int)
      | some none => vals.getD r 0
      | none => 0 := by
  show (Ext.fromDyn p _).extent r = _   -- `fromAll` is `fromDyn` over the filled array
  rw [C06_fromDyn]
  split <;> try rfl
  next h =>
    have hr : r < vals.length := hl ▸ (List.getElem?_eq_some_iff.mp h).1
    have := fillGo_get p vals r h hr 0 (List.replicate (rankDyn p) 0)
      (by rw [Nat.zero_add, List.length_replicate]; exact dynSlot_lt p r h)
    rw [Nat.zero_add] at this
    rw [List.getD_eq_getElem?_getD, this, List.getD_eq_getElem?_getD]

/-! `rank()` and `static_extent(r)` are what the template arguments spell -/

theorem C06_rank (p : Pattern) (vals : List Int) : (Ext.ctor p vals).rank = p.length := by
  unfold Ext.ctor; split <;> rfl
theorem C06_static (p : Pattern) (vals : List Int) (r : Nat) :
    (Ext.ctor p vals).staticExtent r = (p[r]?).getD none := by
  unfold Ext.ctor; split <;> rfl

/-- invariant of the conversion gather, `r0` the source position reached -/
theorem convGo_spec (src : Ext) (p : Pattern) (r0 r : Nat) (h : p[r]? = some none) :
    (convGo src p r0).getD (dynSlot p r) 0 = src.extent (r + r0) := by
  induction p generalizing r0 r with
  | nil => cases h
  | cons o p ih =>
    rcases r with _ | r
    · cases Option.some.inj h
      exact congrArg src.extent (Nat.zero_add r0).symm
    · cases o <;> exact (ih (r0 + 1) r h).trans (congrArg src.extent (Nat.add_right_comm r r0 1))

/-- **C06, conversion**: every dynamic position of the target reports the source's extent -/
theorem C06_conv (p : Pattern) (src : Ext) (r : Nat) (h : p[r]? = some none) :
    (Ext.conv p src).extent r = src.extent r :=
  (Ext.extent_dyn h _).trans (convGo_spec src p 0 r h)

end Mdspan
