import MdspanVerif.Lemmas.Padded
/-!
# C01 — layout offsets are in range and collision-free for every valid mapping

`Layout.Valid` is the precondition under which the library promises a unique
mapping: nothing for left/right, the stride precondition for layout_stride (in
the generalised chain form, which the standard's implies when no extent is 0:
`ValidStrides.of_stdChain`), "padded stride ≥ padded extent" for the padded layouts.
-/
namespace Mdspan

def Layout.Valid : Layout → Prop
  | .left _ | .right _ => True
  | .stride es ss => ValidStrides es ss
  | .lpad es ps => PadOKLeft ps es
  | .rpad es ps => PadOKRight ps es

/-- every mapping is strided with its own `strides()` (C02 / C07 `is_strided`) -/
theorem offset_eq_dot (L : Layout) (is : List Nat) (h : is.length = L.extents.length) :
    L.offset is = dot is L.strides := by
  cases L with
  | left es => exact leftOff_eq_dot es is
  | right es => exact rightOff_eq_dot es is h
  | stride es ss => rfl
  | lpad es ps => exact lpadOff_eq_dot ps es is h
  | rpad es ps => exact rpadOff_eq_dot ps es is h

/-- every mapping other than layout_stride is layout_left or layout_right over allocation extents
    `fs` (the extents themselves, except for the padded layouts of rank ≥ 2) -/
theorem Layout.canon (L : Layout) (hv : L.Valid) : (∃ es ss, L = .stride es ss) ∨
    ∃ fs, LeL L.extents fs ∧ L.span = prod fs ∧
      (L.strides = leftStrides fs ∨ L.strides = rightStrides fs) := by
  cases L with
  | left es => exact Or.inr ⟨es, leL_refl es, rfl, Or.inl rfl⟩
  | right es => exact Or.inr ⟨es, leL_refl es, rfl, Or.inr rfl⟩
  | stride es ss => exact Or.inl ⟨es, ss, rfl⟩
  | lpad es ps =>
    obtain ⟨fs, hle, hs, hsp⟩ := lpad_alloc ps es hv
    exact Or.inr ⟨fs, hle, hsp, Or.inl hs⟩
  | rpad es ps =>
    obtain ⟨fs, hle, hs, hsp⟩ := rpad_alloc ps es hv
    exact Or.inr ⟨fs, hle, hsp, Or.inr hs⟩

/-- `strides()` has one entry per dimension; only layout_stride, which stores them, can fail to -/
theorem strides_length_of {L : Layout} (h : ∀ es ss, L = .stride es ss → ss.length = es.length) :
    L.strides.length = L.extents.length := by
  cases L with
  | left es => exact leftStrides_length es
  | right es => exact rightStrides_length es
  | stride es ss => exact h es ss rfl
  | lpad es ps => exact lpadStrides_length ps es
  | rpad es ps => exact rpadStrides_length ps es

theorem strides_length (L : Layout) (hv : L.Valid) : L.strides.length = L.extents.length :=
  strides_length_of fun _ _ e => by subst e; exact hv.1.symm

theorem valid_strides (L : Layout) (hv : L.Valid) (hpos : ∀ e ∈ L.extents, 0 < e) :
    ValidStrides L.extents L.strides := by
  rcases L.canon hv with ⟨es, ss, rfl⟩ | ⟨fs, hle, -, h | h⟩
  · exact hv
  · rw [h]; exact valid_left_le _ fs hle hpos
  · rw [h]; exact valid_right_le _ fs hle hpos

/-- **C01 (injectivity).** Two different multi-indices inside the extents are never mapped
    to the same offset — every layout, every rank, every extents, every valid stride tuple
    and padding. -/
theorem C01_inj (L : Layout) (hv : L.Valid) (is js : List Nat)
    (hi : InB is L.extents) (hj : InB js L.extents) (h : L.offset is = L.offset js) : is = js := by
  have hpos := inB_pos is L.extents hi
  rw [offset_eq_dot L is (inB_length _ _ hi), offset_eq_dot L js (inB_length _ _ hj)] at h
  exact dot_inj L.extents L.strides is js (valid_strides L hv hpos) hi hj h

theorem span_ge (L : Layout) (hv : L.Valid) (hpos : ∀ e ∈ L.extents, 0 < e) :
    spanM1 (List.zip L.extents L.strides) + 1 ≤ L.span := by
  rcases L.canon hv with ⟨es, ss, rfl⟩ | ⟨fs, hle, hs, h | h⟩
  · exact Nat.le_of_eq (spanStride_pos es ss hpos).symm
  · rw [hs, h]; exact span_left_le _ fs hle hpos
  · rw [hs, h]; exact span_right_le _ fs hle hpos

theorem offset_le_spanM1 (L : Layout) (hlen : L.strides.length = L.extents.length) (is : List Nat)
    (hi : InB is L.extents) : L.offset is ≤ spanM1 (List.zip L.extents L.strides) := by
  rw [offset_eq_dot L is (inB_length _ _ hi)]
  exact dot_le_spanM1 is _ _ hi hlen.symm

/-- **C01 (range).** Every multi-index inside the extents is mapped below
    `required_span_size()`. -/
theorem C01_range (L : Layout) (hv : L.Valid) (is : List Nat) (hi : InB is L.extents) :
    L.offset is < L.span :=
  Nat.lt_of_le_of_lt (offset_le_spanM1 L (strides_length L hv) is hi)
    (span_ge L hv (inB_pos is L.extents hi))

theorem spanStride_strides_le (L : Layout) (hv : L.Valid) : spanStride L.extents L.strides ≤ L.span := by
  by_cases h0 : 0 ∈ L.extents
  · rw [spanStride_zero _ _ h0 (strides_length L hv).symm]; exact Nat.zero_le _
  · have hpos := pos_of_not_mem_zero _ h0
    rw [spanStride_pos _ _ hpos]
    exact span_ge L hv hpos

/-! Non-vacuity: concrete valid mappings with non-trivial index spaces. -/
example : (Layout.stride [2, 3, 2] [20, 1, 5]).Valid := by
  refine ⟨rfl, [(2, 20), (2, 5), (3, 1)], by decide +kernel, ?_⟩
  exact ⟨Or.inr (by decide), Or.inr (by decide), Or.inr (by decide), trivial⟩
example : InB [1, 2, 1] (Layout.stride [2, 3, 2] [20, 1, 5]).extents :=
  ⟨by decide, by decide, by decide, trivial⟩
example : (Layout.lpad [5, 2, 3] 8).Valid := (padOKLeft_iff 8 5 2 [3]).mpr (by decide)
example : (Layout.rpad [2, 3, 5] 8).Valid := (padOKRight_iff (el := 5) rfl (by decide)).mpr (by decide)

end Mdspan
